import Clem.Proofs.T4Perm
import Mathlib.Algebra.Order.Field.Rat

/-!
# C03 — independence from the listing order (full strength)

Property text: *"the result … depends neither on the order in which deltas are listed …"*, i.e.
`∀ inp ds', inp.deltas ~ ds' → t4 … {inp with deltas := ds'} = t4 … inp`.

Proved below for EVERY number carrier whose `≤` is a total order (`C03_perm_invariant`) — no
associativity, no exact arithmetic, and no hypothesis on the target names any more:
* `proposed_fixes/C03_combine_sum_canonical_order.diff` (merged as 0128747): contributions to a key
  are summed in ascending order of value;
* `proposed_fixes/C03_t4_order_ckey-collision.diff`: `_canonical_key` is the tuple
  `(f"{kind}:{id}:{attr}", kind, id, attr)`, injective in the target (`ckey_inj`), so the former
  hypothesis `CkeyInjective` holds of every list (`ckeyInjective_all`).
The old witnesses stay as regression statements: the colliding pair is now kept apart in both
listing orders, and the legacy left-to-right merge is shown order-dependent on a non-associative carrier.
-/
set_option linter.unusedSectionVars false

namespace Clem.T4
open Clem.Py

section AnyCarrier
variable {α : Type} [Num α]

/-- Permutation invariance of the whole `T4Result` under hypothesis `CkeyInjective` (kept because
`C03_perm_invariant` is derived from it; the hypothesis is now always true). -/
theorem C03_perm_invariant_of_injective (ho : LeTotalOrder α) (sqrt : α → α) (thr : α) (inp : Input α)
    (ds' : List (Delta α)) (hp : inp.deltas.Perm ds') (hinj : CkeyInjective inp.deltas) :
    t4 sqrt thr { inp with deltas := ds' } = t4 sqrt thr inp := by
  have hA : afterCd { inp with deltas := ds' } = afterCd inp := by
    simp only [afterCd, combine_perm_invariant ho hp]; rfl
  have hC : clamped { inp with deltas := ds' } = clamped inp := by simp only [clamped, hA]
  have hS : scaled sqrt { inp with deltas := ds' } = scaled sqrt inp := by simp only [scaled, hC]
  have hK : kept sqrt { inp with deltas := ds' } = kept sqrt inp := by simp only [kept, hS]
  have hP : approved sqrt { inp with deltas := ds' } = approved sqrt inp := by simp only [approved, hK]
  simp only [t4, hA, hC, hS, hK, hP, hp.length_eq]
  rfl

/-- **The result does not depend on the order in which the deltas are listed** — every input, every
totally ordered carrier (so: the `Float` instance on NaN-free values, up to the sign of zero). -/
theorem C03_perm_invariant (ho : LeTotalOrder α) (sqrt : α → α) (thr : α) (inp : Input α)
    (ds' : List (Delta α)) (hp : inp.deltas.Perm ds') :
    t4 sqrt thr { inp with deltas := ds' } = t4 sqrt thr inp :=
  C03_perm_invariant_of_injective ho sqrt thr inp ds' hp (ckeyInjective_all _)

/-- … in particular `_combine_by_ckey` itself. -/
theorem C03_combine_perm_invariant (ho : LeTotalOrder α) {ds ds' : List (Delta α)}
    (hp : ds.Perm ds') : combine ds = combine ds' :=
  combine_perm_invariant ho hp

/-- distinct targets never share a canonical key -/
theorem C03_ckey_injective (a b : Delta α) (h : ckey a = ckey b) :
    a.kind = b.kind ∧ a.id = b.id ∧ a.attr = b.attr := ckey_inj h

end AnyCarrier

/-- at an ordered field the order hypothesis is free: no hypothesis is left -/
theorem C03_perm_invariant_field {α : Type} [Field α] [LinearOrder α] [IsStrictOrderedRing α]
    (sqrt : α → α) (thr : α) (inp : Input α) (ds' : List (Delta α)) (hp : inp.deltas.Perm ds') :
    t4 sqrt thr { inp with deltas := ds' } = t4 sqrt thr inp :=
  C03_perm_invariant leTotalOrder_field sqrt thr inp ds' hp

/-! ### regression witnesses (carrier `ℚ`, `decide +kernel` on the model's own definitions) -/

def wInput (ds : List (Delta ℚ)) (ops : List Str) : Input ℚ :=
  { deltas := ds, ops := ops, cooldowns := [([69], 2)], last := [([69], some 4)], turns := [some 5],
    capL2 := 3/2, capNov := 3/10, k := 64 }

/-- node `n:a`, attr `b:w` -/
def wA : Delta ℚ := ⟨[110, 111, 100, 101], [110, 58, 97], [98, 58, 119], 1/10, none, none⟩
/-- node `n:a:b`, attr `w` — a different target with the same `node:n:a:b:w` string key -/
def wB : Delta ℚ := ⟨[110, 111, 100, 101], [110, 58, 97, 58, 98], [119], 1/10, none, none⟩

/-- Regression witness for `C03:t4:order.ckey-collision`: the two targets whose display strings
coincide (`node:n:a:b:w`) have different keys, are BOTH approved, and in the same canonical order
whichever is listed first.  (Before the fix they were merged and the first listed one won.) -/
theorem C03_collision_targets_kept_apart :
    skey wA = skey wB ∧ ckey wA ≠ ckey wB ∧
    (t4 id (999999/1000000) (wInput [wA, wB] [])).approved.map (·.id) = [[110, 58, 97], [110, 58, 97, 58, 98]] ∧
    (t4 id (999999/1000000) (wInput [wB, wA] [])).approved.map (·.id) = [[110, 58, 97], [110, 58, 97, 58, 98]] :=
  ⟨by decide +kernel, by decide +kernel, by decide +kernel, by decide +kernel⟩

/-- A carrier whose addition saturates at `±10` — not associative, like IEEE absorption
(`1e16 + 1.0 = 1e16`).  Only used for the witness below. -/
@[reducible] def satNum : Num Int :=
  { zero := 0, one := 1, add := fun a b => max (-10) (min 10 (a + b)), sub := fun a b => a - b,
    mul := fun a b => a * b, div := fun a b => a / b, neg := fun a => -a,
    abs := fun a => (a.natAbs : Int), lt := fun a b => decide (a < b), le := fun a b => decide (a ≤ b),
    beq := fun a b => a == b }

def wS (v : Int) : Delta Int := ⟨[110], [97], [119], v, none, none⟩

theorem satNum_leTotalOrder : @LeTotalOrder Int satNum :=
  @LeTotalOrder.mk Int satNum
    (fun a b => (Int.le_total a b).imp decide_eq_true decide_eq_true)
    (fun _ _ _ h1 h2 => decide_eq_true (Int.le_trans (of_decide_eq_true h1) (of_decide_eq_true h2)))
    (fun _ _ h1 h2 => Int.le_antisymm (of_decide_eq_true h1) (of_decide_eq_true h2))

/-- Why the fix was needed (kept as a regression witness about the LEGACY merge, `combineAcc`, which
adds contributions in listing order): over a carrier whose addition is not associative, three
duplicates of ONE target merge to different values in different listing orders — the shape of the
float witness `[1e16, 1.0, -1e16]`.  The repaired `combine` gives the same value for both orders,
although `satNum` is not associative. -/
theorem C03_legacy_merge_needed_exact_arithmetic :
    [wS 10, wS 1, wS (-10)].Perm [wS 10, wS (-10), wS 1] ∧
    (@combineAcc Int satNum [wS 10, wS 1, wS (-10)]).map (·.delta) = [0] ∧
    (@combineAcc Int satNum [wS 10, wS (-10), wS 1]).map (·.delta) = [1] ∧
    (@combine Int satNum [wS 10, wS 1, wS (-10)]).map (·.delta) = [1] ∧
    (@combine Int satNum [wS 10, wS (-10), wS 1]).map (·.delta) = [1] :=
  ⟨(List.Perm.swap _ _ _).cons _, by decide +kernel, by decide +kernel, by decide +kernel, by decide +kernel⟩

/-- non-vacuity of `C03_combine_perm_invariant` at a NON-associative carrier -/
example : @combine Int satNum [wS 10, wS 1, wS (-10)] = @combine Int satNum [wS 10, wS (-10), wS 1] :=
  @C03_combine_perm_invariant Int satNum satNum_leTotalOrder _ _ ((List.Perm.swap _ _ _).cons _)

/-- Observation (DESIGN §4; consistent with the property's own pipeline order, so NOT alarmed):
merging happens before the cooldown filter, and the merged delta records the *minimum* `op_idx`.
Here op 1 (kind `E`) is in cooldown and is reported, yet its contribution `2/10` is approved inside
the delta whose recorded provenance is the unblocked op 0.  The cooldown clause is therefore stated
and monitored on recorded provenance (`C03_cooldown`). -/
theorem C03_strong_origin_fails :
    let inp := wInput [⟨[110], [97], [119], 1/10, some 0, none⟩, ⟨[110], [97], [119], 2/10, some 1, none⟩]
                 [[83], [69]]
    blockedOps inp = [1] ∧
    (t4 id (999999/1000000) inp).rejected = [([69], 1)] ∧
    (t4 id (999999/1000000) inp).approved.map (fun d => (d.delta, d.opIdx)) = [(3/10, some 0)] := by
  decide +kernel

/-- non-vacuity: the full theorem applied to the colliding pair -/
example : t4 id (999999/1000000) (wInput [wB, wA] []) = t4 id (999999/1000000) (wInput [wA, wB] []) :=
  C03_perm_invariant_field id _ (wInput [wA, wB] []) [wB, wA] (List.Perm.swap _ _ _)

end Clem.T4
