import Clem.Proofs.CacheKeys
import Clem.Proofs.Fold

/-!
# C05 — Caches are transparent: a hit equals a fresh computation

Property theorems only.  Generic part: `Clem/Model/KeySuff.lean` (+ `Clem/Proofs/KeySuff.lean`); key
functions and read-sets of the three caches of the code: `Clem/Model/CacheKeys.lean` (the driver executes
`t1Eff`, `t2QText`, `turnKey`, `runOps` against the real `ckey`s and the real containers).

Structure of the argument for every cache of the engine:
1. for ANY `CacheSem`, ANY history of requests interleaved with other cache operations (clock ticks, expiry,
   eviction, invalidation) and ANY stage `f`: sufficient key ⇒ cached run = uncached run
   (`C05_transparent_of_sufficient`), and an insufficient key + a retained entry ⇒ a wrong answer
   (`C05_not_transparent_of_insufficient`);
2. every container is a `CacheSem` (hits return only what was put under the same key; nothing else ever
   adds a retrievable entry): `LRUBytes`, the TTL LRU with its clock, the switched-off cache;
3. sufficiency of each concrete key over the explicit read-set of its stage — full strength for the T1 key
   (content-derived etag, `perf_enabled` keyed) and for the repaired turn-level key (`_t2_turn_key_context`), each
   under the faithfulness of the version components it carries; for the repaired T2 stage key (label map, hybrid +
   GEL digest, index identity, whole quality digest) under `IndexVersionFaithful` and equal `rest`; negation
   witnesses for what still refutes those hypotheses and, as history, for the keys before the repairs.
-/

namespace Clem.CacheKeys
open Clem.KeySuff

/-! ## 1. generic transparency -/

/-- **Transparency** for any cache semantics, any history, any stage. -/
theorem C05_transparent_of_sufficient {σ K V X : Type} (C : CacheSem σ K V) (key : X → K) (f : X → V)
    (hs : Sufficient key f) (es : List (Ev X)) (s : σ) (hg : Good C key f s) :
    runCached C key f s es = runUncached f es :=
  transparent_of_sufficient C key f hs es s hg

/-- The same statement about the function the driver executes. -/
theorem C05_runOps_transparent {σ K V X : Type} (C : CacheSem σ K V) (key : X → K) (f : X → V)
    (hs : Sufficient key f) (es : List (Ev X)) (s : σ) (hg : Good C key f s) :
    runOps (CacheOps.ofSem C) key f s es = runUncached f es := by
  rw [runOps_eq]; exact transparent_of_sufficient C key f hs es s hg

/-- **Necessity**: a key that is not sufficient gives a wrong answer as soon as the entry is retained. -/
theorem C05_not_transparent_of_insufficient {σ K V X : Type} (C : CacheSem σ K V) (key : X → K) (f : X → V)
    (x x' : X) (hk : key x = key x') (hf : f x ≠ f x') (s : σ)
    (hmiss : (C.get s (key x)).2 = none)
    (hret : (C.get (C.put (C.get s (key x)).1 (key x) (f x)) (key x)).2 = some (f x)) :
    runCached C key f s [.req x, .req x'] ≠ runUncached f [.req x, .req x'] := by
  simp only [runCached, runUncached, stepCached, stepUncached, List.map_cons, List.map_nil, hmiss]
  rw [← hk, hret]
  simp only [ne_eq, List.cons.injEq, Option.some.injEq, and_true, true_and]
  exact hf

/-- An empty cache is a good starting state; goodness is kept along every history. -/
theorem C05_good_of_empty {σ K V X : Type} (C : CacheSem σ K V) (key : X → K) (f : X → V) (s : σ)
    (h : ∀ k v, ¬ C.holds s k v) : Good C key f s := good_of_empty C key f s h

theorem C05_good_invariant {σ K V X : Type} (C : CacheSem σ K V) (key : X → K) (f : X → V)
    (es : List (Ev X)) (s : σ) (h : Good C key f s) :
    Good C key f (es.foldl (fun st e => (stepCached C key f st e).1) s) :=
  Fold.foldl_invariant (Good C key f) _ es (fun s e _ => good_step C key f s e) h

/-- A hit was computed from an input with the same key (what "never serves another agent's result"
reduces to once the owner is part of the key). -/
theorem C05_hit_has_witness {σ K V X : Type} (C : CacheSem σ K V) (key : X → K) (f : X → V) (s : σ)
    (hg : Good C key f s) (x : X) (v : V) (h : (C.get s (key x)).2 = some v) :
    ∃ x', key x' = key x ∧ f x' = v := hg _ _ (C.get_hit s (key x) v h)

/-! ## 2. the containers of the code are cache semantics -/

/-- TTL LRU (`_NamespaceCache`, `LRUCache`, each `CacheManager` namespace): transparent for every cap, TTL,
clock behaviour (forwards, standing still, backwards) and invalidation schedule, from the empty cache. -/
theorem C05_ttl_transparent {X : Type} (max ttl now : Int) (key : X → Nat) (f : X → Nat)
    (hs : Sufficient key f) (es : List (Ev X)) :
    runOps ttlOps key f ⟨Clem.TtlLru.Ns.init max ttl, now⟩ es = runUncached f es := by
  rw [ttlOps_eq]
  exact runOps_transparent_of_empty ttlSem key f hs es _ fun k v ⟨e, hm, _⟩ => List.not_mem_nil hm

/-- `LRUBytes` (any entry/byte caps, any cost function, `clear` at any time). -/
theorem C05_bytes_transparent {X : Type} (maxE maxB : Nat) (cost : Nat → Nat → Int) (key : X → Nat) (f : X → Nat)
    (hs : Sufficient key f) (es : List (Ev X)) :
    runOps (bytesOps cost) key f (Clem.LruBytes.init maxE maxB) es = runUncached f es := by
  rw [bytesOps_eq]
  exact runOps_transparent_of_empty _ key f hs es _ fun k v ⟨e, hm, _⟩ => List.not_mem_nil hm

/-- A switched-off cache is transparent for EVERY key (no hypothesis on the key). -/
theorem C05_off_transparent {X : Type} (key : X → Nat) (f : X → Nat) (es : List (Ev X)) :
    runOps offOps key f () es = runUncached f es := by
  induction es with
  | nil => rfl
  | cons e es ih =>
    cases e <;> simp only [runOps, stepOps, offOps, runUncached, List.map_cons, stepUncached] <;>
      exact congrArg _ ih

/-- Non-vacuity: a concrete run (cap 2, TTL 300; key = parity, a sufficient key for `f = parity`), with a clock
tick in between — the third request is a hit and equals the fresh value. -/
example : runOps ttlOps (fun x : Nat => x % 2) (fun x => x % 2) ⟨Clem.TtlLru.Ns.init 2 300, 0⟩
    [.req 1, .req 3, .other 4, .req 1] = [some 1, some 1, none, some 1] := by decide +kernel

/-- Non-vacuity of the necessity theorem's hypotheses: parity key, `f = id` — the hit for `3` returns `1`. -/
example : runOps ttlOps (fun x : Nat => x % 2) (fun x => x) ⟨Clem.TtlLru.Ns.init 2 300, 0⟩
    [.req 1, .req 3] = [some 1, some 1] := by decide +kernel

/-- **Value sharing (model fact).**  The engine's caches keep the very object they hand out (reference semantics).
With the property's operation alphabet — turns, graph edits, memory adds, applies, agent switches, configuration
changes: none of them edits a result a stage has returned — by-reference storage behaves exactly like storage of
detached copies, hence is transparent for a sufficient key.  Formally: on every history without caller-edit events the
two semantics produce the same run … -/
theorem C05_reference_eq_copy_without_caller_edits {X : Type} (key : X → Nat) (f : X → List Nat) :
    ∀ (es : List (Ev X)) (s : AState), (∀ e ∈ es, ∃ x, e = Ev.req x) →
      runOps refOps key f s es = runOps copyOps key f s es := by
  intro es
  induction es with
  | nil => intro s _; rfl
  | cons e es ih =>
    intro s h
    obtain ⟨x, rfl⟩ := h e (List.mem_cons_self ..)
    have ih' := fun s' => ih s' (fun e' he' => h e' (List.mem_cons_of_mem _ he'))
    simp only [runOps, stepOps, refOps, copyOps] at ih' ⊢
    cases hg : (aGet s (key x)).2 <;> simp only [ih']

/-- … so the cache as the code has it (by reference) is transparent over every history of the property's alphabet. -/
theorem C05_reference_semantics_transparent {X : Type} (key : X → Nat) (f : X → List Nat) (hs : Sufficient key f)
    (es : List (Ev X)) (h : ∀ e ∈ es, ∃ x, e = Ev.req x) :
    runOps refOps key f ⟨[], none⟩ es = runUncached f es := by
  rw [C05_reference_eq_copy_without_caller_edits key f es _ h, copyOps_eq]
  exact runOps_transparent_of_empty copySem key f hs es _ fun k v h => List.not_mem_nil h

/-- Detached copies would additionally tolerate callers that edit their results (any history, edits included). -/
theorem C05_copy_semantics_transparent {X : Type} (key : X → Nat) (f : X → List Nat) (hs : Sufficient key f)
    (es : List (Ev X)) : runOps copyOps key f ⟨[], none⟩ es = runUncached f es := by
  rw [copyOps_eq]
  exact runOps_transparent_of_empty copySem key f hs es _ fun k v h => List.not_mem_nil h

/-- OUTSIDE THE PROPERTY (alphabet extended with a caller edit): request, the caller appends 9 to its result, same
request again — under reference semantics the hit returns the edited list.  This is why an in-repo regression that
makes engine code edit a cached / served object during an ordinary turn (e.g. adopting a cached delta list as an
accumulator) breaks transparency: it adds such an edit to every turn. -/
theorem C05_reference_semantics_with_caller_edit_not_transparent :
    runOps refOps (fun x : Nat => x) (fun x => [x]) ⟨[], none⟩ [.req 1, .other 9, .req 1]
      ≠ runUncached (fun x : Nat => [x]) [.req 1, .other 9, .req 1] := by decide +kernel

example : runOps copyOps (fun x : Nat => x) (fun x => [x]) ⟨[], none⟩ [.req 1, .other 9, .req 1]
    = [some [1], none, some [1]] := by decide +kernel

example : runOps refOps (fun x : Nat => x) (fun x => [x]) ⟨[], none⟩ [.req 1, .req 2, .req 1]
    = [some [1], some [2], some [1]] := by decide +kernel

/-- The TTL LRU retains a fresh entry (cap ≥ 1, clock unchanged): the necessity theorem applies to it. -/
theorem C05_ttl_retains (max ttl now : Int) (hm : 1 ≤ max) (ht : 0 ≤ ttl) (k v : Nat) :
    (ttlGet (ttlPut (ttlGet ⟨Clem.TtlLru.Ns.init max ttl, now⟩ k).1 k v) k).2 = some v := by
  -- miss on the empty cache, `set` without eviction, hit on the fresh entry
  have h0 : (ttlGet ⟨Clem.TtlLru.Ns.init max ttl, now⟩ k).1 = ⟨Clem.TtlLru.Ns.init max ttl, now⟩ := by
    unfold ttlGet; rw [Clem.TtlLru.get_miss rfl]
  have h1 : ttlPut ⟨Clem.TtlLru.Ns.init max ttl, now⟩ k v = ⟨⟨max, ttl, [⟨k, now, v⟩]⟩, now⟩ := by
    show (⟨⟨max, ttl, (Clem.TtlLru.Ns.evictOver max [⟨k, now, v⟩]).1⟩, now⟩ : TtlState) = _
    rw [Clem.TtlLru.evictOver_fits max [⟨k, now, v⟩] hm]
  have h2 : (Clem.TtlLru.Ns.get ⟨max, ttl, [⟨k, now, v⟩]⟩ now k).2 = some v := by
    rw [Clem.TtlLru.get_hit (s := ⟨max, ttl, [⟨k, now, v⟩]⟩) (e := ⟨k, now, v⟩)
      (List.find?_cons_of_pos (p := fun e : Clem.TtlLru.Entry => e.key == k) (beq_iff_eq.mpr rfl))
      ((Clem.TtlLru.expired_eq_false_iff _ _ _).mpr (.inr (by rw [Int.sub_self]; exact ht)))]
  rw [h0, h1]; exact h2

/-! ## 3a. T1 stage cache: the repaired key is sufficient -/

/-- The key determines the effective caps, the seeds and (through a faithful etag) the graph. -/
theorem C05_t1_key_sufficient {E V : Type} (etagOf : Nat → E) (hinj : EtagFaithful etagOf)
    (seedsOf : Nat → Nat → List Nat) (compute : Nat → T1Eff → List Nat → V) :
    Sufficient (t1Key etagOf seedsOf) (t1Stage seedsOf compute) := by
  intro r r' h
  simp only [t1Key, T1Key.mk.injEq] at h
  obtain ⟨_, he, heff, hseeds⟩ := h
  have hg : r.graph = r'.graph := hinj _ _ he
  show compute r.graph (t1Eff r) (seedsOf r.graph r.text) = compute r'.graph (t1Eff r') (seedsOf r'.graph r'.text)
  rw [hseeds, heff, hg]

/-- Non-vacuity: the hypothesis is satisfiable (a content hash treated as injective: `id`). -/
example (seedsOf : Nat → Nat → List Nat) (compute : Nat → T1Eff → List Nat → Nat) :
    Sufficient (t1Key id seedsOf) (t1Stage seedsOf compute) :=
  C05_t1_key_sufficient id (fun _ _ h => h) seedsOf compute

/-- The order-preserving digest is faithful on the ordered adjacency … -/
theorem C05_ordered_digest_faithful (g g' : OEdges) (h : digestOrdered g = digestOrdered g') : g = g' := h

/-- … a sorted-id ("canonical, independent of upsert order") digest is NOT: same digest, different propagation
result under `relax_cap = 1` (a→b then a→c reaches {a,b}; a→c then a→b reaches {a,c}). -/
theorem C05_sorted_digest_not_faithful :
    ∃ g g' : OEdges, digestSorted g = digestSorted g' ∧ reachCapped 1 g 0 ≠ reachCapped 1 g' 0 :=
  ⟨ogOf 0, ogOf 1, by decide +kernel⟩

/-- Consequence: the T1 stage behind ANY of the code's containers is transparent over every history
(several states in one process included: the graph content, not the state, is what the key identifies). -/
theorem C05_t1_transparent {σ E V : Type} (C : CacheSem σ (T1Key E) V) (etagOf : Nat → E)
    (hinj : EtagFaithful etagOf) (seedsOf : Nat → Nat → List Nat) (compute : Nat → T1Eff → List Nat → V)
    (es : List (Ev T1Raw)) (s : σ) (hg : Good C (t1Key etagOf seedsOf) (t1Stage seedsOf compute) s) :
    runCached C (t1Key etagOf seedsOf) (t1Stage seedsOf compute) s es = runUncached (t1Stage seedsOf compute) es :=
  transparent_of_sufficient C _ _ (C05_t1_key_sufficient etagOf hinj seedsOf compute) es s hg

/-- The slice-effective budgets are what is keyed: two requests whose raw budgets differ but clamp to the
same effective values share a key — and a result. -/
example : t1Eff { gid := 0, graph := 0, text := 0, decay := 0, edgeMult := 0, radiusCap := 4, iterCap := 50,
                  iterCapLayers := 50, queueBudget := 10000, relaxCap := none, nodeBudget := 0,
                  sliceIters := some 1, slicePops := some 2, frontierCap := 0, visitedCap := 0, dedupeWindow := 0,
                  perfEnabled := false }
        = t1Eff { gid := 0, graph := 0, text := 0, decay := 0, edgeMult := 0, radiusCap := 4, iterCap := 50,
                  iterCapLayers := 1, queueBudget := 2, relaxCap := none, nodeBudget := 0,
                  sliceIters := none, slicePops := none, frontierCap := 0, visitedCap := 0, dedupeWindow := 0,
                  perfEnabled := false } := by decide +kernel

def t1Sample : T1Raw :=
  { gid := 1, graph := 7, text := 3, decay := 0, edgeMult := 0, radiusCap := 4, iterCap := 50, iterCapLayers := 50,
    queueBudget := 10000, relaxCap := none, nodeBudget := 0, sliceIters := none, slicePops := none,
    frontierCap := 1, visitedCap := 0, dedupeWindow := 0, perfEnabled := false }

/-- (history of the defect) An etag that is a function of the counts only is not faithful: graphs `7` and `8`
(same counts, an edge weight edited) share the key while the stage result differs. -/
theorem C05_t1_counts_etag_insufficient :
    ∃ r r' : T1Raw, t1Key (fun _ => (4, 2)) (fun _ _ => [1]) r = t1Key (fun _ => (4, 2)) (fun _ _ => [1]) r' ∧
      t1Stage (fun _ _ => [1]) (fun g _ _ => g) r ≠ t1Stage (fun _ _ => [1]) (fun g _ _ => g) r' :=
  ⟨t1Sample, { t1Sample with graph := 8 }, by decide +kernel⟩

/-- The same witness at the level of the T1 key: with an order-insensitive etag two states whose stores hold the
same nodes and edges inserted in different orders share a key while the stage result differs. -/
theorem C05_t1_order_insensitive_etag_insufficient :
    ∃ r r' : T1Raw, t1Key (fun c => digestSorted (ogOf c)) (fun _ _ => [0]) r = t1Key (fun c => digestSorted (ogOf c)) (fun _ _ => [0]) r' ∧
      t1Stage (fun _ _ => [0]) (fun g e _ => reachCapped (e.relaxCap.getD 0).toNat (ogOf g) 0) r ≠
      t1Stage (fun _ _ => [0]) (fun g e _ => reachCapped (e.relaxCap.getD 0).toNat (ogOf g) 0) r' :=
  ⟨{ t1Sample with graph := 0, relaxCap := some 1 }, { t1Sample with graph := 1, relaxCap := some 1 }, by decide +kernel⟩

/-- (history of the defect) Without `perf_enabled` in `policy_caps` the key ignored whether the perf caps act. -/
theorem C05_t1_legacy_key_ignores_perf :
    ∃ r r' : T1Raw, t1KeyLegacy id (fun _ _ => [1]) r = t1KeyLegacy id (fun _ _ => [1]) r' ∧
      t1Stage (fun _ _ => [1]) (fun _ e _ => e.perfEnabled) r ≠ t1Stage (fun _ _ => [1]) (fun _ e _ => e.perfEnabled) r' :=
  ⟨t1Sample, { t1Sample with perfEnabled := true }, by decide +kernel⟩

/-! ## 3b. T2 stage cache -/

/-- Sufficiency of the repaired T2 key (label map, hybrid settings + GEL digest and the index identity are keyed).
What remains a hypothesis: `IndexVersionFaithful` — within ONE index object the version stands for the content
(append-only `add`: `C05_index_append_version_faithful`; refuted by an in-place upsert) — and `rest`: a custom
`ctx.enc` encoder object and the CONTENTS of an aliasing map file, which are not configuration values. -/
theorem C05_t2_key_sufficient_partial {V : Type} (compute : T2Eff → V) (r r' : T2Raw)
    (hk : t2Key r = t2Key r')
    (hIndexFaithful : IndexVersionFaithful r r')
    (hRest : r.rest = r'.rest) :
    t2Stage compute r = t2Stage compute r' := by
  have hv : r.indexVer = r'.indexVer := congrArg T2Key.indexVer hk
  have ht : r.indexTok = r'.indexTok := congrArg T2Key.indexTok hk
  simp only [t2Stage, t2Eff, hk, hIndexFaithful ht hv, hRest]

/-- The repaired dimensions are part of the key: equal keys ⇒ equal label map, hybrid/GEL digest and index object. -/
theorem C05_t2_repaired_dims_keyed (r r' : T2Raw) (hk : t2Key r = t2Key r') :
    r.labelMap = r'.labelMap ∧ r.hybrid = r'.hybrid ∧ r.indexTok = r'.indexTok ∧ r.quality = r'.quality :=
  ⟨congrArg T2Key.labelMap hk, congrArg T2Key.hybrid hk, congrArg T2Key.indexTok hk, congrArg T2Key.quality hk⟩

/-- Along any history of append-only `add`s the version counts the rows, which are appended in order. -/
theorem C05_index_append_version (m : MemIdx) (l : List (Nat × Nat)) :
    (m.runAppend l).ver = m.ver + l.length ∧ (m.runAppend l).eps = m.eps ++ l := by
  induction l generalizing m with
  | nil => exact ⟨rfl, (List.append_nil _).symm⟩
  | cons e l ih =>
    obtain ⟨h1, h2⟩ := ih (m.addAppend e)
    refine ⟨h1.trans ?_, h2.trans (List.append_assoc _ _ _)⟩
    show m.ver + 1 + l.length = m.ver + (l.length + 1)
    rw [Nat.add_assoc, Nat.add_comm 1]

/-- So append-only `add` keeps the version faithful within one index object: two moments of the same index
with equal versions hold the same rows. -/
theorem C05_index_append_version_faithful (m : MemIdx) (l1 l2 : List (Nat × Nat))
    (h : (m.runAppend l1).ver = (m.runAppend (l1 ++ l2)).ver) : (m.runAppend l1).eps = (m.runAppend (l1 ++ l2)).eps := by
  have a := C05_index_append_version m l1
  have b := C05_index_append_version m (l1 ++ l2)
  rw [a.1, b.1, List.length_append] at h
  have : l2 = [] := List.length_eq_zero_iff.mp (Nat.left_eq_add.mp (Nat.add_left_cancel h))
  rw [this, List.append_nil]

/-- Negation witness for an in-place upsert: the stored row changes, the version does not — the T2 key
(`index_version` is its only memory component) cannot tell the two index contents apart. -/
theorem C05_index_upsert_not_version_faithful :
    ∃ (m : MemIdx) (ep : Nat × Nat), (m.addUpsert ep).ver = m.ver ∧ (m.addUpsert ep).eps ≠ m.eps :=
  ⟨⟨[(1, 10), (2, 20)], 2⟩, (1, 11), by decide +kernel⟩

/-- The owner filter is part of the key: requests with equal keys have the same owner scope and owner. -/
theorem C05_t2_owner_keyed (r r' : T2Raw) (hk : t2Key r = t2Key r') :
    r.ownerScope = r'.ownerScope ∧ r.owner = r'.owner :=
  ⟨congrArg T2Key.ownerScope hk, congrArg T2Key.owner hk⟩

/-- **No cross-agent service**: in any good cache state a hit for agent `r.owner` was computed for a request
with the same owner (and the same fetch size, date, ranking weights, …). -/
theorem C05_t2_hit_same_owner {σ V : Type} (C : CacheSem σ T2Key V) (compute : T2Eff → V) (s : σ)
    (hg : Good C t2Key (t2Stage compute) s) (r : T2Raw) (v : V) (h : (C.get s (t2Key r)).2 = some v) :
    ∃ r', t2Stage compute r' = v ∧ r'.owner = r.owner ∧ r'.ownerScope = r.ownerScope ∧
      r'.kRetrieval = r.kRetrieval ∧ r'.now = r.now ∧ r'.rank = r.rank ∧ r'.residualCap = r.residualCap := by
  obtain ⟨r', hk, hv⟩ := C05_hit_has_witness C t2Key (t2Stage compute) s hg r v h
  exact ⟨r', hv, congrArg T2Key.owner hk, congrArg T2Key.ownerScope hk, congrArg T2Key.kRetrieval hk,
    congrArg T2Key.now hk, congrArg T2Key.rank hk, congrArg T2Key.residualCap hk⟩

/-- The query that is keyed is the EFFECTIVE query: text and T1 labels enter the stage only through it. -/
theorem C05_t2_qtext_keyed (r r' : T2Raw) (hk : t2Key r = t2Key r') :
    t2QText r.text r.labels = t2QText r'.text r'.labels := congrArg T2Key.q hk

def t2Sample : T2Raw :=
  { tiers := [1], text := [97], labels := [[98]], recentDays := 30, simThr := 0, topM := 3, quality := none,
    sliceK := none, ownerScope := 1, owner := 65, kRetrieval := 10, now := 5, rank := (1, 0, 0), residualCap := 32,
    kSurface := 32, indexVer := 4, indexTok := 1, labelMap := 200, hybrid := 0, index := 100, rest := 300 }

/-- Non-vacuity: the hypotheses hold for a request and its exact repetition. -/
example (compute : T2Eff → Nat) : t2Stage compute t2Sample = t2Stage compute t2Sample :=
  C05_t2_key_sufficient_partial compute t2Sample t2Sample rfl (fun _ _ => rfl) rfl

example : t2QText [32, 97, 32] [[99], [98]] = [97, 32, 98, 32, 99] := by decide +kernel
example : t2QText [32, 97, 32] [] = [97] := by decide +kernel
example : t2QText [] [[98]] = [98] := by decide +kernel

/-- The same witness at the level of the T2 key: the request repeated after episode 1 was re-written in place. -/
theorem C05_t2_key_insufficient_inplace_upsert :
    ∃ r r' : T2Raw, t2Key r = t2Key r' ∧ ¬ IndexVersionFaithful r r' ∧ t2Stage id r ≠ t2Stage id r' :=
  ⟨{ t2Sample with indexVer := 2, index := 1020 }, { t2Sample with indexVer := 2, index := 1120 },
   by decide +kernel, fun h => absurd (h rfl rfl) (by decide +kernel), by decide +kernel⟩

/-- A digest of the whole quality subtree is faithful … -/
theorem C05_quality_digest_whole_faithful (q q' : QCfg) (h : digestAll q = digestAll q') : q = q' := h

/-- … a digest that drops a leaf the quality ops read is not. -/
theorem C05_quality_digest_dropping_leaf_not_faithful :
    ∃ q q' : QCfg, digestDrop 7 q = digestDrop 7 q' ∧ q ≠ q' := ⟨qOf 0, qOf 1, by decide +kernel⟩

/-- The same witness at the level of the T2 key: two requests at the same index version that differ only in
`t2.quality.mmr.k` collide once the digest drops that leaf, while the stage result differs. -/
theorem C05_t2_key_insufficient_digest_drops_leaf :
    ∃ r r' : T2Raw, r.quality ≠ r'.quality ∧
      r.quality.map (fun c => digestDrop 7 (qOf c)) = r'.quality.map (fun c => digestDrop 7 (qOf c)) ∧
      { t2Key r with quality := none } = { t2Key r' with quality := none } ∧ t2Stage id r ≠ t2Stage id r' :=
  ⟨{ t2Sample with quality := some 0 }, { t2Sample with quality := some 1 }, by decide +kernel⟩

/-- (history of the defect `C05:t2:node_label`) before the label map was keyed: a node label edited outside T1's reach. -/
theorem C05_t2_pre_key_insufficient_labelmap :
    ∃ r r' : T2Raw, t2KeyPre r = t2KeyPre r' ∧ t2Key r ≠ t2Key r' ∧ t2Stage id r ≠ t2Stage id r' :=
  ⟨t2Sample, { t2Sample with labelMap := 201 }, by decide +kernel⟩

/-- (history of the defect `C05:t2:state`) before the index identity was keyed: two states whose indexes have equal `_ver`. -/
theorem C05_t2_pre_key_insufficient_index :
    ∃ r r' : T2Raw, t2KeyPre r = t2KeyPre r' ∧ t2Key r ≠ t2Key r' ∧ t2Stage id r ≠ t2Stage id r' :=
  ⟨t2Sample, { t2Sample with indexTok := 2, index := 101 }, by decide +kernel⟩

/-- (history of the defect `C05:t2:hybrid`) before the hybrid settings and the GEL digest were keyed. -/
theorem C05_t2_pre_key_insufficient_hybrid :
    ∃ r r' : T2Raw, t2KeyPre r = t2KeyPre r' ∧ t2Key r ≠ t2Key r' ∧ t2Stage id r ≠ t2Stage id r' :=
  ⟨{ t2Sample with hybrid := 7 }, { t2Sample with hybrid := 8 }, by decide +kernel⟩

/-- Negation witness, what is still outside the key: **rest** (custom encoder object, alias file contents). -/
theorem C05_t2_key_insufficient_rest :
    ∃ r r' : T2Raw, t2Key r = t2Key r' ∧ t2Stage id r ≠ t2Stage id r' :=
  ⟨t2Sample, { t2Sample with rest := 301 }, by decide +kernel⟩

/-- (history of the defect) the key before the repair did not separate two agents. -/
theorem C05_t2_legacy_key_owner_leak :
    ∃ r r' : T2Raw, r.owner ≠ r'.owner ∧ t2KeyLegacy r = t2KeyLegacy r' ∧ t2Stage id r ≠ t2Stage id r' :=
  ⟨t2Sample, { t2Sample with owner := 66 }, by decide +kernel⟩

/-- The (historic) label-map witness is answered wrongly by a real container (TTL LRU, cap 2, from empty). -/
theorem C05_t2_labelmap_stale_on_ttl_lru :
    runCached ttlSem (fun r : T2Raw => if t2KeyPre r = t2KeyPre t2Sample then 0 else 1) (fun r => r.labelMap)
        ⟨Clem.TtlLru.Ns.init 2 300, 0⟩ [.req t2Sample, .req { t2Sample with labelMap := 201 }]
      ≠ runUncached (fun r : T2Raw => r.labelMap) [.req t2Sample, .req { t2Sample with labelMap := 201 }] := by
  decide +kernel

/-! ## 3c. turn-level manager -/

/-- **Full strength after the repair** (`_t2_turn_key_context`): the turn-level key determines the wrapped T2 stage's
result.  The two hypotheses are the faithfulness of the version components the key carries (as `EtagFaithful` for
T1): the graph etags + T1's touched ids stand for the labels, the index version stands for the memory content. -/
theorem C05_turn_key_sufficient {V : Type} (compute : TurnEff → V) (r r' : TurnRaw)
    (hk : turnKey r = turnKey r')
    (hGraph : TurnGraphFaithful r r') (hMemory : TurnMemoryFaithful r r') :
    turnStage compute r = turnStage compute r' := by
  have ht : r.text = r'.text := congrArg TurnKey.text hk
  have hs : r.sliceK = r'.sliceK := congrArg TurnKey.sliceK hk
  have ha : r.agent = r'.agent := congrArg TurnKey.agent hk
  have hn : r.now = r'.now := congrArg TurnKey.now hk
  have hc : r.config = r'.config := congrArg TurnKey.config hk
  have hg : r.gel = r'.gel := congrArg TurnKey.gel hk
  obtain ⟨hl, hm⟩ := hGraph (congrArg TurnKey.t1Sig hk) (congrArg TurnKey.graphs hk)
  have hmem := hMemory (congrArg TurnKey.indexVer hk)
  simp only [turnStage, turnEff, ht, hs, ha, hn, hc, hg, hl, hm, hmem]

def turnSample : TurnRaw :=
  { version := none, text := [97], sliceK := none, agent := 1, now := 6, config := 4, t1Sig := 7, graphs := 8,
    indexVer := 4, gel := 0, t1Labels := 2, labelMap := 3, memory := 5 }

/-- Non-vacuity of the hypotheses. -/
example (compute : TurnEff → Nat) : turnStage compute turnSample = turnStage compute turnSample :=
  C05_turn_key_sufficient compute turnSample turnSample rfl (fun _ _ => ⟨rfl, rfl⟩) (fun _ => rfl)

example : turnKey turnSample = turnKey { turnSample with version := some [] } := by decide +kernel
example : turnKey turnSample = turnKey { turnSample with version := some [48] } := by decide +kernel
example : turnKey turnSample ≠ turnKey { turnSample with version := some [49] } := by decide +kernel

/-- (history of the defects `C05:turn:agent`, `:config`, `:now`, `:t1_labels`, `:node_label`, `:memory_add`) the key
`(version, text[, t2_k])` collided for requests that differ in any of these dimensions; the repaired key separates
each of them. -/
theorem C05_turn_legacy_key_insufficient :
    (∃ r r' : TurnRaw, turnKeyLegacy r = turnKeyLegacy r' ∧ turnKey r ≠ turnKey r' ∧ r.agent ≠ r'.agent) ∧
    (∃ r r' : TurnRaw, turnKeyLegacy r = turnKeyLegacy r' ∧ turnKey r ≠ turnKey r' ∧ r.config ≠ r'.config) ∧
    (∃ r r' : TurnRaw, turnKeyLegacy r = turnKeyLegacy r' ∧ turnKey r ≠ turnKey r' ∧ r.now ≠ r'.now) ∧
    (∃ r r' : TurnRaw, turnKeyLegacy r = turnKeyLegacy r' ∧ turnKey r ≠ turnKey r' ∧ r.t1Labels ≠ r'.t1Labels) ∧
    (∃ r r' : TurnRaw, turnKeyLegacy r = turnKeyLegacy r' ∧ turnKey r ≠ turnKey r' ∧ r.labelMap ≠ r'.labelMap) ∧
    (∃ r r' : TurnRaw, turnKeyLegacy r = turnKeyLegacy r' ∧ turnKey r ≠ turnKey r' ∧ r.memory ≠ r'.memory) :=
  ⟨⟨turnSample, { turnSample with agent := 9 }, by decide +kernel⟩,
   ⟨turnSample, { turnSample with config := 9 }, by decide +kernel⟩,
   ⟨turnSample, { turnSample with now := 9 }, by decide +kernel⟩,
   ⟨turnSample, { turnSample with t1Sig := 9, t1Labels := 9 }, by decide +kernel⟩,
   ⟨turnSample, { turnSample with graphs := 9, labelMap := 9 }, by decide +kernel⟩,
   ⟨turnSample, { turnSample with indexVer := 5, memory := 9 }, by decide +kernel⟩⟩

/-- What still refutes the hypotheses: an in-place edit that keeps the index version (memory) — the key cannot see it. -/
theorem C05_turn_key_insufficient_inplace_memory :
    ∃ r r' : TurnRaw, turnKey r = turnKey r' ∧ ¬ TurnMemoryFaithful r r' ∧ turnStage id r ≠ turnStage id r' :=
  ⟨turnSample, { turnSample with memory := 9 }, by decide +kernel, fun h => absurd (h rfl) (by decide +kernel), by decide +kernel⟩

/-- What the turn-level key separates. -/
theorem C05_turn_key_separates (r r' : TurnRaw) (hk : turnKey r = turnKey r') :
    r.text = r'.text ∧ r.sliceK = r'.sliceK ∧ r.agent = r'.agent ∧ r.now = r'.now ∧ r.config = r'.config ∧
    r.indexVer = r'.indexVer :=
  ⟨congrArg TurnKey.text hk, congrArg TurnKey.sliceK hk, congrArg TurnKey.agent hk, congrArg TurnKey.now hk,
   congrArg TurnKey.config hk, congrArg TurnKey.indexVer hk⟩

/-! ## monitor soundness -/

theorem C05_monitor_iff {K : Type} [DecidableEq K] (k k' : K) (same : Bool) :
    keyEqImpliesSameB k k' same = true ↔ (k = k' → same = true) := by
  unfold keyEqImpliesSameB
  by_cases h : k = k' <;> simp [h]

end Clem.CacheKeys
