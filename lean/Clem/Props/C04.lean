import Clem.Proofs.Apply
import Clem.Proofs.Fold

/-!
# C04 — Apply commits exactly the approved deltas, once, with version discipline

Property theorems only (helper lemmas live in `Clem/Proofs/Apply.lean`).  Every theorem is about
the executable definitions in `Clem/Model/Apply.lean` that the driver runs against the real
`apply_changes` / `run_turn`.  All statements quantify over *every* input `i : In`
(approved list, store script, version, cache manager, faults) or every history `ts : List TurnIn`.

The model follows the code with `proposed_fixes/C04_no_fallback_after_successful_batch.diff`
applied (in the repository as 47688c0).  `storePhaseLegacy` is the pinned tree before the fix; `C04_legacy_double_on_garbage`
is the machine-checked witness of DESIGN §5 row 11 for it.
-/

namespace Clem.Apply

/-- The store receives exactly: nothing (no usable store); `[approved]`; or `[approved]` followed
by one singleton call per approved delta in the same order — the latter iff the batch call itself
raised. -/
theorem C04_handoff (i : In) : (apply i).calls = handoff i := by
  unfold apply storeAcc handoff
  cases i.store <;> simp [storePhase_calls]

theorem C04_handoff_batch_ok (i : In) (hs : i.store = .fn) (h : (headO i.script).isRet = true) :
    (apply i).calls = [i.deltas] := by
  rw [C04_handoff]; simp [handoff, hs, h]

theorem C04_handoff_fallback (i : In) (hs : i.store = .fn) (h : headO i.script = .raise) :
    (apply i).calls = [i.deltas] ++ i.deltas.map (fun d => [d]) := by
  rw [C04_handoff]; simp [handoff, hs, h, Outcome.isRet, singles]

/-- The per-delta fallback happens *only if* the batch call failed: any second call to the store
implies the first outcome was `raise` (whatever the counts of a returned value look like). -/
theorem C04_fallback_only_if_batch_raised (i : In) (h : 1 < (apply i).calls.length) :
    headO i.script = .raise := by
  rw [C04_handoff] at h
  by_cases hs : i.store = .fn
  · rw [handoff_fn hs] at h
    cases ho : headO i.script with
    | raise => rfl
    | ret e c => rw [ho] at h; exact absurd h (Nat.lt_irrefl 1)
  · rw [handoff_of_ne_fn hs] at h; exact absurd h (Nat.not_lt_zero 1)

/-- Without a usable store nothing is handed over. -/
theorem C04_no_store_no_calls (i : In) (h : i.store ≠ .fn) : (apply i).calls = [] :=
  (C04_handoff i).trans (handoff_of_ne_fn h)

example : (apply { (default : In) with store := .fn, deltas := [0, 1], script := [.raise, .raise, .ret (.ok 1) .bad] }).calls
    = [[0, 1], [0], [1]] := by decide +kernel

/-- **At-most-once, full strength.**  For every approved list and every script, what an
all-or-nothing store has committed is a sublist of the approved list (same order, no delta more
often than approved). -/
theorem C04_at_most_once (i : In) : (committed (apply i).calls i.script).Sublist i.deltas := by
  unfold apply storeAcc
  cases i.store
  · simp [committed]
  · simp [committed]
  · rw [committed_storePhase]
    split
    · exact .refl _
    · exact committed_singles_sublist _ _
  · simp [committed]

theorem C04_at_most_once_count (i : In) (d : Delta) :
    (committed (apply i).calls i.script).count d ≤ i.deltas.count d :=
  (C04_at_most_once i).count_le d

/-- A successful batch commits exactly the approved list. -/
theorem C04_exactly_once_on_success (i : In) (hs : i.store = .fn) (h : (headO i.script).isRet = true) :
    committed (apply i).calls i.script = i.deltas := by
  unfold apply storeAcc; simp only [hs]; rw [committed_storePhase, if_pos h]

/-- Finding (DESIGN §5 row 11) on the code *before* the fix: a well-behaved store whose batch
answer carries an unparsable `edits` count gets every delta a second time. -/
theorem C04_legacy_double_on_garbage :
    ∃ ds sc d, (committed (storePhaseLegacy ds sc).calls sc).count d = 2 ∧ ds.count d = 1 :=
  ⟨[0, 1], [.ret .bad (.ok 0)], 0, by decide +kernel⟩

/-- …and the same script on the repaired code: once. -/
example : (committed (storePhase [0, 1] [.ret .bad (.ok 0)]).calls [.ret .bad (.ok 0)]).count 0 = 1 := by decide +kernel

/-- The fix is conservative: on every script whose returned counts all parse (the only kind a
conforming store produces) the repaired store phase and the pinned one coincide — calls, applied
and clamp counters. -/
theorem C04_fix_conservative (ds : List Delta) (sc : List Outcome)
    (h : ∀ o ∈ sc, o.wellFormed = true) : storePhaseLegacy ds sc = storePhase ds sc := by
  unfold storePhaseLegacy storePhase
  rcases Outcome.wellFormed_cases (headO_wellFormed h) with ho | ⟨e, c, ho⟩ <;> rw [ho]
  · exact perDeltaLegacy_eq _ _ _ fun o ho => h o (List.mem_of_mem_tail ho)
  · rfl

example : ∀ o ∈ [Outcome.raise, .ret (.ok 1) (.ok 0)], o.wellFormed = true := by decide +kernel

/-! ## canonical order is preserved (T4 → Apply composition) -/

/-- With a usable store the first call is the approved list verbatim (same elements, same order). -/
theorem C04_batch_is_approved_verbatim (i : In) (hs : i.store = .fn) :
    (apply i).calls.head? = some i.deltas := by
  rw [C04_handoff, handoff_fn hs]; split <;> rfl

/-- Whatever follows the batch is the approved list again, one by one, in the same order. -/
theorem C04_fallback_same_order (i : In) :
    ((apply i).calls.drop 1).flatten = i.deltas ∨ (apply i).calls.drop 1 = [] := by
  rw [C04_handoff]
  by_cases hs : i.store = .fn
  · rw [handoff_fn hs]
    split
    · exact Or.inr rfl
    · exact Or.inl (flatten_singles _)
  · rw [handoff_of_ne_fn hs]; exact Or.inr rfl

/-- Hence a canonically sorted approved list (T4's output, C03) reaches the store canonically
sorted: for any key function, every call the store receives is sorted. -/
theorem C04_canonical_order_preserved (i : In) (key : Delta → List Nat)
    (h : keysSortedB (i.deltas.map key) = true) :
    ∀ c ∈ (apply i).calls, keysSortedB (c.map key) = true := by
  rw [C04_handoff]
  intro c hc
  by_cases hs : i.store = .fn
  · -- the batch is the approved list; a singleton is sorted
    have : c = i.deltas ∨ ∃ d, [d] = c := by
      rw [handoff_fn hs] at hc
      split at hc
      · exact Or.inl (List.mem_singleton.1 hc)
      · exact (List.mem_cons.1 hc).imp_right fun hc => (List.mem_map.1 hc).imp fun _ => And.right
    rcases this with rfl | ⟨d, rfl⟩
    · exact h
    · rfl
  · rw [handoff_of_ne_fn hs] at hc; cases hc

/-- The composition monitor holds of the model whenever T4's output is sorted. -/
theorem C04_canon_monitor_holds (i : In) (key : Delta → List Nat) (hs : i.store = .fn)
    (h : keysSortedB (i.deltas.map key) = true) :
    canonHandoffB (i.deltas.map key) ((apply i).calls.map (·.map key)) = true := by
  have e := C04_handoff i
  rw [handoff_fn hs] at e
  rw [e]
  cases (headO i.script).isRet
  · simp only [canonHandoffB, h, singles, Bool.false_eq_true, if_false, List.cons_append, List.nil_append,
      List.map_cons, List.map_nil, List.map_map, Function.comp_def, beq_self, Bool.or_true, Bool.and_self]
  · simp only [canonHandoffB, h, if_true, List.map_cons, List.map_nil, beq_self, Bool.true_or, Bool.and_self]

example : keysSortedB [[110, 58, 97], [110, 58, 98], [110, 58, 98, 49]] = true := by decide +kernel
example : keysSortedB [[110, 58, 98], [110, 58, 97]] = false := by decide +kernel

/-- The version becomes `bump v` for **every** script, cache-manager behaviour and snapshot fault. -/
theorem C04_version (i : In) : (apply i).version = bump i.ver := rfl

theorem C04_bump_absent : bump .absent = 1 := rfl
theorem C04_bump_numeric (n : Int) : bump (.num n) = n + 1 := rfl
theorem C04_bump_junk : bump .junk = 1 := rfl

/-- After any history the version is determined by the initial version and the number of committed
(kill switch off) turns alone. -/
theorem C04_version_history_general (s : HState) (ts : List TurnIn) :
    (runHistory s ts).ver = verAfter s.ver (committedTurns ts) :=
  (runHistory_committed s ts).1

/-- From a numeric `v₀`: version = `v₀ + m` where `m` = number of committed turns; kill-switch
turns contribute 0. -/
theorem C04_version_history (s : HState) (ts : List TurnIn) (v : Int) (h : s.ver = .num v) :
    (runHistory s ts).ver = .num (v + committedTurns ts) := by
  rw [C04_version_history_general, h]
  cases committedTurns ts with
  | zero => exact congrArg Ver.num (Int.add_zero v).symm
  | succ m => exact congrArg Ver.num ((Int.add_assoc v 1 m).trans (congrArg _ (Int.add_comm 1 m)))

/-- From an absent / unparsable version: `m ≥ 1` committed turns give `"m"`. -/
theorem C04_version_history_fresh (s : HState) (ts : List TurnIn) (h : s.ver = .absent ∨ s.ver = .junk)
    (hm : 0 < committedTurns ts) : (runHistory s ts).ver = .num (committedTurns ts) := by
  rw [C04_version_history_general]
  cases hc : committedTurns ts with
  | zero => exact absurd (hc ▸ hm) (Nat.lt_irrefl 0)
  | succ m =>
    -- `bump` of an absent or unparsable version is 1
    have e : Ver.num (1 + m) = .num ((m + 1 : Nat) : Int) := congrArg Ver.num (Int.add_comm 1 m)
    rcases h with h | h <;> rw [h] <;> exact e

example : (runHistory ⟨.num 4, none, none, [], 0, []⟩
    [{ (default : TurnIn) with enabled := true }, default, { (default : TurnIn) with enabled := true }]).ver = .num 6 := by
  decide +kernel

/-- `apply` is a total function; the only way the real call can raise is the (documented) unguarded
snapshot write: store failures, per-delta failures, garbage counts and cache-manager failures
never do. -/
theorem C04_total (i : In) :
    (apply i).raised = true ↔ (shouldSnapshot i.turn i.every = true ∧ i.snapFault = true) := by
  simp [apply]

theorem C04_never_raises_without_snapshot_fault (i : In) (h : i.snapFault = false) :
    (apply i).raised = false := by
  simp [apply, h]

/-- **Which store faults may propagate: none.**  The store surface touched by the apply → snapshot
path is `apply_deltas` (lookup and call, batch and per-delta, raising or returning garbage),
`export_state` (missing / raising / returning something unserialisable / lookup raising) and `w`
(missing / malformed keys / unconvertible values / lookup raising).  For every combination of
these — i.e. for every `i` — `apply_changes` raises only if the snapshot *file write* itself
fails (`snapFault`: an OS-level I/O failure in `write_snapshot`, not a store fault). -/
theorem C04_store_faults_never_propagate (i : In) (h : i.snapFault = false) :
    (apply i).raised = false ∧ (apply i).version = bump i.ver ∧ (apply i).calls = handoff i :=
  ⟨C04_never_raises_without_snapshot_fault i h, rfl, C04_handoff i⟩

/-- The export side of the store surface influences nothing but the `store` section of the
snapshot file: calls, counters, version, invalidation, cadence and `raised` are the same for all
`export_state` / `w` behaviours. -/
theorem C04_export_faults_only_touch_snapshot_section (i : In) (e : ExportMode) (w : WMode) :
    let o := apply i
    let o' := apply { i with exportMode := e, wMode := w }
    o'.calls = o.calls ∧ o'.applied = o.applied ∧ o'.clamps = o.clamps ∧ o'.version = o.version ∧
    o'.invalidated = o.invalidated ∧ o'.cm = o.cm ∧ o'.snap = o.snap ∧ o'.raised = o.raised :=
  ⟨rfl, rfl, rfl, rfl, rfl, rfl, rfl, rfl⟩

/-- A store whose `apply_deltas` lookup raises is treated like a store without the API: nothing is
handed over, the version is still bumped. -/
theorem C04_attr_fault_is_no_api (i : In) (h : i.store = .attrRaises) :
    (apply i).calls = [] ∧ (apply i).version = bump i.ver :=
  ⟨C04_no_store_no_calls i (by simp [h]), rfl⟩

/-- A snapshot is written with a degraded (`{}`) store section rather than not at all. -/
theorem C04_snapshot_written_despite_export_fault (i : In) (h : i.snapFault = false)
    (hc : shouldSnapshot i.turn i.every = true) :
    (apply i).snapStore = some (storeSection i) := by
  simp [apply, h, hc]

example : (apply ⟨.fn, .absent, some 4, 2, false, none, none, none, false, [], [], .raises, .badValue⟩).snapStore
    = some .empty := by decide +kernel

/-- Errors inside the store never skip the version bump — nor does the snapshot fault. -/
theorem C04_version_bumped_even_if_raised (i : In) (_h : (apply i).raised = true) :
    (apply i).version = bump i.ver := rfl

theorem C04_cadence (i : In) : (apply i).snap.isSome = shouldSnapshot i.turn i.every := by
  rw [apply_snap]
  cases shouldSnapshot i.turn i.every <;> rfl

theorem C04_cadence_arith (t n : Int) : shouldSnapshot (some t) n = true ↔ t % max 1 n = 0 := by
  simp [shouldSnapshot]

theorem C04_cadence_unparsable_turn (n : Int) : shouldSnapshot none n = true := by
  rw [shouldSnapshot, Option.getD_none, Int.zero_emod]
  rfl

/-- A non-positive cadence behaves as 1: every turn snapshots. -/
theorem C04_cadence_nonpositive (t : Option Int) (n : Int) (h : n ≤ 1) : shouldSnapshot t n = true := by
  rw [shouldSnapshot, Int.max_eq_left h, Int.emod_one]
  rfl

/-- The snapshot records the new version, the applied count and the approved list. -/
theorem C04_snapshot_content (i : In) (r : SnapRec) (h : (apply i).snap = some r) :
    r.version = bump i.ver ∧ r.applied = (apply i).applied ∧ r.deltas = snapDeltas i := by
  rw [apply_snap] at h
  split at h
  · cases h; exact ⟨rfl, rfl, rfl⟩
  · cases h

example : (apply { (default : In) with turn := some 6, every := 3 }).snap.isSome = true := by decide +kernel
example : (apply { (default : In) with turn := some 7, every := 3 }).snap.isSome = false := by decide +kernel

/-- The reported invalidation count is exactly the number of entries removed — for every fault
pattern of the cache manager, every mode, every namespace list. -/
theorem C04_invalidate_count (i : In) (c : Cache) (h : i.cm = some c) :
    ∃ c', (apply i).cm = some c' ∧ (apply i).invalidated + c'.total = c.total := by
  rw [apply_cm, apply_invalidated]
  by_cases ha : invActive i = true
  · rw [invPhase_active i c ha h]
    refine ⟨_, rfl, ?_⟩
    exact (invLoop_count i.cmFault 0 (nsList i.namespaces) c 0).trans (Nat.zero_add _)
  · simp only [Bool.not_eq_true] at ha
    rw [invPhase_inactive i ha]
    exact ⟨c, h, by simp⟩

/-- `on-apply` with a cache manager that does not fail: every configured namespace is empty
afterwards. -/
theorem C04_invalidate_empties (i : In) (c : Cache) (ha : invActive i = true) (h : i.cm = some c)
    (hf : i.cmFault = none) :
    ∃ c', (apply i).cm = some c' ∧ ∀ ns ∈ nsList i.namespaces, c'.size ns = 0 := by
  rw [apply_cm, invPhase_active i c ha h]
  refine ⟨_, rfl, ?_⟩
  intro ns hns
  rw [invOn, hf]
  exact (invLoop_size none 0 _ c 0 ns).elim And.left fun h => absurd hns (h.2 rfl)

/-- Namespaces that are not configured keep their entries (any fault pattern). -/
theorem C04_invalidate_untouched (i : In) (c : Cache) (h : i.cm = some c) (ns : Nat)
    (hns : ns ∉ nsList i.namespaces) :
    ∃ c', (apply i).cm = some c' ∧ c'.size ns = c.size ns := by
  rw [apply_cm]
  by_cases ha : invActive i = true
  · rw [invPhase_active i c ha h]
    exact ⟨_, rfl, (invLoop_size _ _ _ _ _ ns).elim (fun h => absurd h.2 hns) And.left⟩
  · simp only [Bool.not_eq_true] at ha
    rw [invPhase_inactive i ha]
    exact ⟨c, h, rfl⟩

/-- Mode other than `on-apply` (or no usable store): cache untouched, count 0. -/
theorem C04_invalidate_off (i : In) (ha : invActive i = false) :
    (apply i).cm = i.cm ∧ (apply i).invalidated = 0 := by
  rw [apply_cm, apply_invalidated, invPhase_inactive i ha]; exact ⟨rfl, rfl⟩

/-- A failing cache manager never fails apply and never blocks the version bump (cf. `C04_total`):
the failing call just ends the loop; what was invalidated before stays counted. -/
example : (apply ⟨.fn, .absent, none, 1, true, some [0, 1], some [(0, 2), (1, 3)], some 1, false, [], [], .absent, .absent⟩).invalidated
    = 2 := by decide +kernel

example : (apply ⟨.fn, .absent, none, 1, true, some [1, 0, 1], some [(0, 2), (1, 3)], none, false, [], [], .absent, .absent⟩).cm
    = some [(0, 0), (1, 0)] := by decide +kernel

/-! ## the monitor evaluated on the implementation holds of the model -/

theorem C04_spec_handoff (i : In) : specHandoff i (apply i) = true := by
  unfold specHandoff; rw [C04_handoff]; exact beq_self _

theorem C04_spec_once (i : In) : specOnce i (apply i) = true :=
  List.all_eq_true.2 fun d _ => decide_eq_true (C04_at_most_once_count i d)

theorem C04_spec_version (i : In) : specVersion i (apply i) = true := by
  unfold specVersion; rw [C04_version]; exact beq_self _

theorem C04_spec_cadence (i : In) : specCadence i (apply i) = true := by
  unfold specCadence
  rw [C04_cadence, beq_self, Bool.true_and, apply_snap]
  cases shouldSnapshot i.turn i.every with
  | false => rfl
  | true => simp only [if_true, C04_version, beq_self, Bool.and_self]

theorem C04_spec_total (i : In) : specTotal i (apply i) = true := by
  simp only [specTotal, apply, beq_self, Bool.and_self]

theorem C04_spec_invalidate (i : In) : specInvalidate i (apply i) = true := by
  unfold specInvalidate
  cases hc : i.cm with
  | none =>
    rw [apply_cm, apply_invalidated, invPhase_none i hc]; rfl
  | some c =>
    obtain ⟨c', e1, e2⟩ := C04_invalidate_count i c hc
    rw [e1]
    simp only [e2, beq_self, Bool.true_and, Bool.and_eq_true]
    constructor
    · split
      · rename_i hcond
        simp only [beq_iff_eq] at hcond
        obtain ⟨c'', e3, e4⟩ := C04_invalidate_empties i c hcond.1 hc hcond.2
        rw [e1] at e3; cases e3
        simp only [List.all_eq_true, beq_iff_eq]
        exact e4
      · rfl
    · split
      · rfl
      · rename_i hcond
        simp only [Bool.not_eq_true] at hcond
        have := (C04_invalidate_off i hcond).1
        rw [e1, hc] at this; cases this
        exact beq_self _

/-- Every clause monitor the harness evaluates on the implementation holds of the model, for
every input. -/
theorem C04_spec_holds (i : In) : spec i (apply i) = true := by
  simp [spec, C04_spec_handoff, C04_spec_once, C04_spec_version, C04_spec_cadence, C04_spec_total,
    C04_spec_invalidate]

/-- With `t4.enabled = false` a turn makes no store call, leaves version and snapshot alone and
emits no `t4.jsonl` / `apply.jsonl` record — at any position of any history (`s` is arbitrary). -/
theorem C04_killswitch (s : HState) (t : TurnIn) (h : t.enabled = false) :
    (runTurn s t).calls = s.calls ∧ (runTurn s t).ver = s.ver ∧ (runTurn s t).snap = s.snap ∧
    (runTurn s t).t4recs = s.t4recs ∧ (runTurn s t).applyRecs = s.applyRecs := by
  rw [runTurn_off s t h]; exact ⟨rfl, rfl, rfl, rfl, rfl⟩

/-- Kill-switch turns invalidate nothing: the cache only receives T2's own insert. -/
theorem C04_killswitch_cache (s : HState) (t : TurnIn) (h : t.enabled = false) :
    (runTurn s t).cm = t2Insert s.cm := by
  rw [runTurn_off s t h]

/-- A committed turn at any position: version bumps by the `bump` law, exactly one t4 and one apply
record, the store receives exactly this turn's hand-off. -/
theorem C04_committed_turn (s : HState) (t : TurnIn) (h : t.enabled = true) :
    (runTurn s t).ver = .num (bump s.ver) ∧ (runTurn s t).t4recs = s.t4recs + 1 ∧
    (runTurn s t).applyRecs.length = s.applyRecs.length + 1 ∧
    (runTurn s t).calls = s.calls ++ handoff (toIn s t) :=
  let ⟨a, b, c, d, _⟩ := runTurn_on s t h
  ⟨a, b, c, d.trans (congrArg _ (C04_handoff _))⟩

/-- The `apply.jsonl` record of a committed turn carries the new version and the cadence flag. -/
theorem C04_committed_turn_record (s : HState) (t : TurnIn) (h : t.enabled = true) :
    ∃ r, (runTurn s t).applyRecs.getLast? = some r ∧ r.version = bump s.ver ∧
      r.snapshot = shouldSnapshot t.turn t.every :=
  ⟨_, (runTurn_on s t h).2.2.2.2.1, rfl, C04_cadence (toIn s t)⟩

/-- Over a whole history with the switch toggled arbitrarily: the number of t4 / apply records is
the number of committed turns. -/
theorem C04_history_records (s : HState) (ts : List TurnIn) :
    (runHistory s ts).t4recs = s.t4recs + committedTurns ts ∧
    (runHistory s ts).applyRecs.length = s.applyRecs.length + committedTurns ts :=
  ⟨(runHistory_committed s ts).2.1, (runHistory_committed s ts).2.2.1⟩

/-- **Store traffic of a whole history, kill switch toggled arbitrarily:** exactly the hand-off of
each committed turn, in turn order; kill-switch turns contribute nothing. -/
theorem C04_history_calls (s : HState) (ts : List TurnIn) :
    (runHistory s ts).calls = s.calls ++ (ts.filter (·.enabled)).flatMap handoffT :=
  have e : handoffT = fun t => (apply (toIn default t)).calls := funext fun _ => (C04_handoff _).symm
  e ▸ (runHistory_committed s ts).2.2.2

/-- A history made only of kill-switch turns changes neither store, version, snapshot nor records. -/
theorem C04_killswitch_history (s : HState) (ts : List TurnIn) (h : ∀ t ∈ ts, t.enabled = false) :
    (runHistory s ts).calls = s.calls ∧ (runHistory s ts).ver = s.ver ∧
    (runHistory s ts).snap = s.snap ∧ (runHistory s ts).t4recs = s.t4recs ∧
    (runHistory s ts).applyRecs = s.applyRecs := by
  obtain ⟨cm, e⟩ := Fold.foldl_invariant (fun s' => ∃ cm, s' = { s with cm := cm }) runTurn ts
    (fun s' t ht ⟨cm, e⟩ => ⟨t2Insert cm, by subst e; exact runTurn_off _ t (h t ht)⟩) ⟨s.cm, rfl⟩
  rw [runHistory, e]; exact ⟨rfl, rfl, rfl, rfl, rfl⟩

/-- Snapshot cadence of a committed turn at any state: after it the snapshot file carries the new
version iff the turn is on the cadence; otherwise it is the previous file. -/
theorem C04_history_cadence (s : HState) (t : TurnIn) (h : t.enabled = true) :
    (runTurn s t).snap =
      if shouldSnapshot t.turn t.every then
        some ⟨bump s.ver, (apply (toIn s t)).applied, snapDeltas (toIn s t)⟩
      else s.snap := by
  have hs : (apply (toIn s t)).snap =
      if shouldSnapshot t.turn t.every then
        some ⟨bump s.ver, (apply (toIn s t)).applied, snapDeltas (toIn s t)⟩
      else none := apply_snap _
  rw [(runTurn_on s t h).2.2.2.2.2.2, hs]
  by_cases hc : shouldSnapshot t.turn t.every = true
  · rw [if_pos hc, if_pos hc]
  · rw [if_neg hc, if_neg hc]

/-- Cache clause of a committed turn at any state: the cache after it and the invalidation count in
its record obey `specInvalidate` for the configuration in force *that* turn (whatever earlier
turns were configured with). -/
theorem C04_turn_invalidate_holds (s : HState) (t : TurnIn) (h : t.enabled = true) :
    turnInvalidateB s t (runTurn s t) = true := by
  obtain ⟨_, _, _, _, hl, hc, _⟩ := runTurn_on s t h
  rw [turnInvalidateB, hl]
  exact (specInvalidate_congr (toIn s t)
    { (default : Out) with cm := (runTurn s t).cm, invalidated := (apply (toIn s t)).invalidated }
    (apply (toIn s t)) hc rfl).trans (C04_spec_invalidate _)

/-- The per-turn monitor evaluated on implementation histories holds of the model at every state. -/
theorem C04_turnSpec_holds (s : HState) (t : TurnIn) : turnSpec s t (runTurn s t) = true := by
  unfold turnSpec
  by_cases h : t.enabled = true
  · obtain ⟨a, b, c, d⟩ := C04_committed_turn s t h
    have e := C04_history_cadence s t h
    obtain ⟨r, r1, r2, r3⟩ := C04_committed_turn_record s t h
    have hi := C04_turn_invalidate_holds s t h
    simp only [h, if_true, hi, a, b, c, d, r1, r2, r3, beq_self, Bool.true_and]
    by_cases hc : shouldSnapshot t.turn t.every = true
    · rw [if_pos hc] at e ⊢
      rw [e]
      exact beq_self _
    · rw [if_neg hc] at e ⊢
      rw [e]
      exact beq_self _
  · rw [if_neg h, runTurn_off s t (Bool.eq_false_iff.2 h)]
    simp only [beq_self, Bool.and_self]

end Clem.Apply
