/-
C02 — Features behind a closed gate are inert.

Model: `Clem.Model.Gates` (ordered gated sites of run_turn and the stages, table regenerated from the
AST into `Clem.Gen.Gates`; site bodies, external atoms, state type and inputs are universally
quantified).  Gate `g` is off in `c` when `c g.flag = 0`; `agreeOutside g.sub c c'` says the two configurations
differ only inside the subtree the gate owns.

Full statement (property text): for every gate g ∈ {perf, perf.parallel, graph, t2.quality, t2.hybrid,
t3.reflection, scheduler}: g off in c → g off in c' → agreeOutside (sub g) c c' → same outputs, logs and
state after every turn, and no artefact of g is emitted.
Proved at full strength for perf.parallel, graph, t2.hybrid, t3.reflection, and for t2.quality with
sub = t2.quality.* minus {redact, shadow, trace_dir}, the leaves the shadow trace consumes (the shadow
feature, gated by perf.enabled, owns `shadow`; the other two are in no gate's subtree); `_partial` for
  * perf: sub = perf.* minus perf.parallel.* (the parallel predicates do not consult perf.enabled —
    dichotomy theorem `C02_inert_perf_full_dichotomy` + witness `C02_parallel_ignores_master_witness`);
  * scheduler: sub = scheduler.* minus budgets.{ops,time_ms}_reflection, which reflection consumes while
    the scheduler is off (documented as reflection's knobs) — `C02_scheduler_full_leak_is_reflection_only`.
-/
import Clem.Proofs.Gates

namespace Clem.Props.C02
open Clem.Gates Clem.Gen.Gates Clem.Py

/-- Soundness of the syntactic gate check: a predicate that `forcedOff` accepts is false under every
configuration whose flag is off, whatever the external atoms. -/
theorem C02_forcedOff_sound (f : Nat) (c : Cfg) (x : Ext) (hf : c f = 0) (e : GExpr)
    (h : forcedOff f e = true) : eval c x e = false :=
  forcedOff_sound hf x e h

/-- C02_inert, generic: if every site of the table is harmless for the gate, two configurations with the
flag off that agree outside the gated subtree give the same state and the same emitted artefacts after
every sequence of turns. -/
theorem C02_inert {σ ι : Type} (W : World σ) (feed : ι → σ → σ) (g : Feat) (tbl : List Site)
    (hok : tableOK g.flag g.sub tbl = true) (c c' : Cfg)
    (hoff : c g.flag = 0) (hoff' : c' g.flag = 0) (hag : agreeOutside g.sub c c')
    (inputs : List ι) (st : σ × List Nat) :
    runTurns W feed c tbl inputs st = runTurns W feed c' tbl inputs st :=
  runTurns_inert W feed hoff hoff' hag tbl hok inputs st

/-- C02_no_artifact, generic: with the flag off no artefact of the gate is ever emitted. -/
theorem C02_no_artifact {σ ι : Type} (W : World σ) (feed : ι → σ → σ) (g : Feat) (tbl : List Site)
    (hok : artTableOK g.flag g.arts tbl = true) (c : Cfg) (hoff : c g.flag = 0)
    (inputs : List ι) (s0 : σ) :
    noArtifactB g.arts (runTurns W feed c tbl inputs (s0, [])).2 = true :=
  runTurns_noart W feed hoff tbl hok inputs (s0, []) rfl

/-- The three-valued prediction used by the correspondence check never contradicts the real evaluation. -/
theorem C02_eval3_sound (c : Cfg) (x3 : Nat → Option Bool) (x : Ext)
    (href : ∀ j b, x3 j = some b → x j = b) (e : GExpr) (b : Bool)
    (h : eval3 c x3 e = some b) : eval c x e = b :=
  eval3_sound c x3 x href e b h

/-- C02_gate_table_consistent: each listed site's dominating predicate implies its documented gate flag. -/
theorem C02_gate_table_consistent : consistentB allSites documentedGates = true := by decide +kernel

/-- The table check for all eight gates in one statement; the `C02_table_<gate>` below are its instances.
Evaluated in the form `siteOK_eq`: a site that avoids the gate's subtree passes, the others are checked. -/
theorem tables_checked : ∀ g ∈ [feat_perf, feat_perf_parallel, feat_graph, feat_t2_quality, feat_t2_hybrid,
    feat_t3_reflection, feat_scheduler, feat_shadow], tableOK g.flag g.sub sites = true := by
  unfold tableOK
  rw [siteOK_eq]
  decide +kernel

theorem C02_table_perf : tableOK feat_perf.flag feat_perf.sub sites = true := tables_checked _ (by simp)
theorem C02_table_parallel : tableOK feat_perf_parallel.flag feat_perf_parallel.sub sites = true :=
  tables_checked _ (by simp)
theorem C02_table_graph : tableOK feat_graph.flag feat_graph.sub sites = true := tables_checked _ (by simp)
theorem C02_table_quality : tableOK feat_t2_quality.flag feat_t2_quality.sub sites = true :=
  tables_checked _ (by simp)
theorem C02_table_hybrid : tableOK feat_t2_hybrid.flag feat_t2_hybrid.sub sites = true :=
  tables_checked _ (by simp)
theorem C02_table_reflection : tableOK feat_t3_reflection.flag feat_t3_reflection.sub sites = true :=
  tables_checked _ (by simp)
theorem C02_table_scheduler : tableOK feat_scheduler.flag feat_scheduler.sub sites = true :=
  tables_checked _ (by simp)
theorem C02_table_shadow : tableOK feat_shadow.flag feat_shadow.sub sites = true := tables_checked _ (by simp)

theorem C02_arts_perf : artTableOK feat_perf_full.flag feat_perf_full.arts allSites = true := by decide +kernel
theorem C02_arts_parallel : artTableOK feat_perf_parallel.flag feat_perf_parallel.arts allSites = true := by decide +kernel
theorem C02_arts_graph : artTableOK feat_graph.flag feat_graph.arts allSites = true := by decide +kernel
theorem C02_arts_quality : artTableOK feat_t2_quality.flag feat_t2_quality.arts allSites = true := by decide +kernel
theorem C02_arts_hybrid : artTableOK feat_t2_hybrid.flag feat_t2_hybrid.arts allSites = true := by decide +kernel
theorem C02_arts_reflection : artTableOK feat_t3_reflection.flag feat_t3_reflection.arts allSites = true := by decide +kernel
theorem C02_arts_scheduler : artTableOK feat_scheduler_full.flag feat_scheduler_full.arts allSites = true := by decide +kernel

section
variable {σ ι : Type} (W : World σ) (feed : ι → σ → σ) (c c' : Cfg) (inputs : List ι) (st : σ × List Nat)

/-- perf master switch (partial: sub = perf.* minus perf.parallel.*). -/
theorem C02_inert_perf_partial (h : c feat_perf.flag = 0) (h' : c' feat_perf.flag = 0)
    (hag : agreeOutside feat_perf.sub c c') :
    runTurns W feed c sites inputs st = runTurns W feed c' sites inputs st :=
  C02_inert W feed feat_perf sites C02_table_perf c c' h h' hag inputs st

theorem C02_inert_parallel (h : c feat_perf_parallel.flag = 0) (h' : c' feat_perf_parallel.flag = 0)
    (hag : agreeOutside feat_perf_parallel.sub c c') :
    runTurns W feed c sites inputs st = runTurns W feed c' sites inputs st :=
  C02_inert W feed feat_perf_parallel sites C02_table_parallel c c' h h' hag inputs st

theorem C02_inert_graph (h : c feat_graph.flag = 0) (h' : c' feat_graph.flag = 0)
    (hag : agreeOutside feat_graph.sub c c') :
    runTurns W feed c sites inputs st = runTurns W feed c' sites inputs st :=
  C02_inert W feed feat_graph sites C02_table_graph c c' h h' hag inputs st

theorem C02_inert_quality (h : c feat_t2_quality.flag = 0) (h' : c' feat_t2_quality.flag = 0)
    (hag : agreeOutside feat_t2_quality.sub c c') :
    runTurns W feed c sites inputs st = runTurns W feed c' sites inputs st :=
  C02_inert W feed feat_t2_quality sites C02_table_quality c c' h h' hag inputs st

theorem C02_inert_hybrid (h : c feat_t2_hybrid.flag = 0) (h' : c' feat_t2_hybrid.flag = 0)
    (hag : agreeOutside feat_t2_hybrid.sub c c') :
    runTurns W feed c sites inputs st = runTurns W feed c' sites inputs st :=
  C02_inert W feed feat_t2_hybrid sites C02_table_hybrid c c' h h' hag inputs st

theorem C02_inert_reflection (h : c feat_t3_reflection.flag = 0) (h' : c' feat_t3_reflection.flag = 0)
    (hag : agreeOutside feat_t3_reflection.sub c c') :
    runTurns W feed c sites inputs st = runTurns W feed c' sites inputs st :=
  C02_inert W feed feat_t3_reflection sites C02_table_reflection c c' h h' hag inputs st

/-- scheduler (partial: sub = scheduler.* minus the two reflection budgets). -/
theorem C02_inert_scheduler_partial (h : c feat_scheduler.flag = 0) (h' : c' feat_scheduler.flag = 0)
    (hag : agreeOutside feat_scheduler.sub c c') :
    runTurns W feed c sites inputs st = runTurns W feed c' sites inputs st :=
  C02_inert W feed feat_scheduler sites C02_table_scheduler c c' h h' hag inputs st

/-- shadow tracing is governed by the perf master switch. -/
theorem C02_inert_shadow (h : c feat_shadow.flag = 0) (h' : c' feat_shadow.flag = 0)
    (hag : agreeOutside feat_shadow.sub c c') :
    runTurns W feed c sites inputs st = runTurns W feed c' sites inputs st :=
  C02_inert W feed feat_shadow sites C02_table_shadow c c' h h' hag inputs st

/-- No GEL log, reflection log, scheduler log / slice keys, perf / shadow traces and gated metric keys
while the respective flag is off (full table, advisory sites included). -/
theorem C02_no_artifact_perf (s0 : σ) (h : c feat_perf_full.flag = 0) :
    noArtifactB feat_perf_full.arts (runTurns W feed c allSites inputs (s0, [])).2 = true :=
  C02_no_artifact W feed feat_perf_full allSites C02_arts_perf c h inputs s0
theorem C02_no_artifact_graph (s0 : σ) (h : c feat_graph.flag = 0) :
    noArtifactB feat_graph.arts (runTurns W feed c allSites inputs (s0, [])).2 = true :=
  C02_no_artifact W feed feat_graph allSites C02_arts_graph c h inputs s0
theorem C02_no_artifact_quality (s0 : σ) (h : c feat_t2_quality.flag = 0) :
    noArtifactB feat_t2_quality.arts (runTurns W feed c allSites inputs (s0, [])).2 = true :=
  C02_no_artifact W feed feat_t2_quality allSites C02_arts_quality c h inputs s0
theorem C02_no_artifact_hybrid (s0 : σ) (h : c feat_t2_hybrid.flag = 0) :
    noArtifactB feat_t2_hybrid.arts (runTurns W feed c allSites inputs (s0, [])).2 = true :=
  C02_no_artifact W feed feat_t2_hybrid allSites C02_arts_hybrid c h inputs s0
theorem C02_no_artifact_reflection (s0 : σ) (h : c feat_t3_reflection.flag = 0) :
    noArtifactB feat_t3_reflection.arts (runTurns W feed c allSites inputs (s0, [])).2 = true :=
  C02_no_artifact W feed feat_t3_reflection allSites C02_arts_reflection c h inputs s0
theorem C02_no_artifact_scheduler (s0 : σ) (h : c feat_scheduler_full.flag = 0) :
    noArtifactB feat_scheduler_full.arts (runTurns W feed c allSites inputs (s0, [])).2 = true :=
  C02_no_artifact W feed feat_scheduler_full allSites C02_arts_scheduler c h inputs s0
end

/-! ## Non-vacuity: the hypotheses are satisfiable by configurations that really differ inside the subtree -/

private theorem nonvac (g : Feat) (w : Nat) (hw : g.sub.contains w = true) (hne : (w == g.flag) = false) :
    ∃ c c' : Cfg, c g.flag = 0 ∧ c' g.flag = 0 ∧ agreeOutside g.sub c c' ∧ c w ≠ c' w := by
  refine ⟨fun _ => 0, fun i => if i = w then 7 else 0, rfl, ?_, ?_, ?_⟩
  · have : g.flag ≠ w := (beq_eq_false_iff_ne.mp hne).symm
    simp [this]
  · intro i hi
    have : i ≠ w := by intro h; subst h; rw [hw] at hi; cases hi
    simp [this]
  · simp

example := nonvac feat_perf wit_perf (by decide) (by decide)
example := nonvac feat_perf_parallel wit_perf_parallel (by decide) (by decide)
example := nonvac feat_graph wit_graph (by decide) (by decide)
example := nonvac feat_t2_quality wit_t2_quality (by decide) (by decide)
example := nonvac feat_t2_hybrid wit_t2_hybrid (by decide) (by decide)
example := nonvac feat_t3_reflection wit_t3_reflection (by decide) (by decide)
example := nonvac feat_scheduler wit_scheduler (by decide) (by decide)

/-- The table check is not vacuous: an ungated site that consumes a leaf of the subtree does make two
runs differ (concrete engine: the state records the values read). -/
theorem C02_tableOK_tight :
    let tbl : List Site := [⟨0, .tt, [1], []⟩]
    let W : World (List Int) := ⟨fun _ _ => true, fun _ vals s => vals ++ s⟩
    let c : Cfg := fun _ => 0
    let c' : Cfg := fun i => if i = 1 then 5 else 0
    tableOK 0 [0, 1] tbl = false ∧ c 0 = 0 ∧ c' 0 = 0 ∧
      runSites W c tbl ([], []) ≠ runSites W c' tbl ([], []) := by decide +kernel

/-- Full `perf.*` subtree: either it is inert under `perf.enabled = false` (a tree where the parallel
predicates consult the master switch), or the parallel fan-out sites are exactly not gated by it. -/
theorem C02_inert_perf_full_dichotomy :
    tableOK feat_perf_full.flag feat_perf_full.sub sites = true ∨
      consistentB allSites parallelMaster = false := by
  unfold tableOK
  rw [siteOK_eq]
  decide +kernel

/-- Configuration with every leaf truthy (= 2) except the perf master switch. -/
def masterOffAllOn : Cfg := fun i => if i = feat_perf_full.flag then 0 else 2

/-- Negation witness for "the parallel predicates imply perf.enabled" (DESIGN §5 #9): unless the table
says they do, a configuration with `perf.enabled = false` makes a fan-out site's predicate true. -/
theorem C02_parallel_ignores_master_witness :
    consistentB allSites parallelMaster = true ∨
      (masterOffAllOn feat_perf_full.flag = 0 ∧
        (parallelMaster.any fun p => match allSites[p.1]? with
          | some s => eval masterOffAllOn (fun _ => true) s.guard
          | none => false) = true) := by decide +kernel

/-- Agent batch driver (`_run_agents_parallel_batch`): either its compute-then-commit path is gated by the perf
master switch as the validator's warning documents, or a configuration with `perf.enabled = false` opens it. -/
theorem C02_agents_ignore_master_witness :
    consistentB allSites agentsMaster = true ∨
      (masterOffAllOn feat_perf_full.flag = 0 ∧
        (agentsMaster.any fun p => match allSites[p.1]? with
          | some s => eval masterOffAllOn (fun _ => true) s.guard
          | none => false) = true) := by decide +kernel

/-- Full `scheduler.*` subtree: every site that breaks its inertness is a reflection site, i.e. runs only
under `t3.allow_reflection` (it consumes scheduler.budgets.{ops,time_ms}_reflection). -/
theorem C02_scheduler_full_leak_is_reflection_only :
    (sites.filter fun s => !(siteOK feat_scheduler_full.flag feat_scheduler_full.sub s)).all
      (fun s => forcedOff feat_t3_reflection.flag s.guard) = true := by
  rw [siteOK_eq]
  decide +kernel

/-- The advisory call sites (the MMR fallback call, not gated by t2.quality.enabled itself: its callee,
site `t2.quality.mmr_work`, is) consume no configuration leaf and emit no artefact of their own. -/
theorem C02_advisory_sites_documented :
    advisorySites.all (fun s => s.reads.isEmpty && s.emits.isEmpty) = true := by decide

end Clem.Props.C02
