/-
C01 — Turn execution is reproducible byte-for-byte.

Families:
 (T) theorems over the tables regenerated from the AST of the working tree (`Clem.Gen.Determinism`):
     every hash-order site is canonicalised, every wall-clock/entropy read only reaches volatile fields or a
     documented (pinned) decision, `run_turn`'s own reads are volatile without any pin;
 (P) permutation-invariance of the canonicalisation patterns the table's tags refer to (`List.Perm`);
 (N) the model's `normalize_for_identity`: idempotent, satisfies the monitor the harness runs on the real one, erases
     exactly the volatile fields of a turn record;
 (S) clock non-interference of the `run_turn` skeleton (`Clem.C01.turn`, the same definition `clemdrv` executes
     against the real `run_turn`): the canonical output depends on the clock ONLY through the boundary
     decisions `elapsed ≥ wall_ms / quantum_ms` (scheduler on) and `age > ttl` (turn-level cache on, ttl ≠ 0).
 (W) warm vs fresh process behind a process-global stage cache: same values given a sufficient key, different hit flags.
The composed whole-turn model and its theorems are in `Props/C01/Compose*.lean` (imported here).
Full statement (property text): for all clocks, canon (run clk) = canon (run clk').  It is FALSE of the code with
the scheduler on, and with a TTL cache on; both negations are proved below with concrete witnesses and the
`_partial` theorems carry the exact guards.
-/
import Clem.Gen.Determinism
import Clem.Proofs.C01Turn
import Clem.Proofs.Sort
import Clem.Proofs.KeySuff
import Clem.Props.C01.ComposeTransparent

open Clem.DetTables Clem.Gen.Determinism Clem.C01 Clem.Py Clem.KeySuff

/-! ### (T) generated tables -/

/-- every iteration over a set in clematis/ and configs/ is order-canonicalised (sorted / commutative / pinned review) -/
theorem C01_hash_sites_canonical : ∀ s ∈ hashSites, s.canon ≠ Canon.unordered := by decide +kernel

/-- every wall-clock / entropy read flows only to volatile fields, to a documented decision, to a logical-timestamp
fallback or off the turn path (each non-automatic verdict is pinned to the source text of the function) -/
theorem C01_clock_reads_only_volatile : ∀ r ∈ clockReads, r.verdict ≠ Verdict.leak := by decide +kernel

/-- `Orchestrator.run_turn` itself: its clock reads reach only `ms`, `ms_*`, `durations_ms.*` — established by the
automatic flow analysis, no pin — and the row exists -/
theorem C01_run_turn_reads_volatile :
    (∀ r ∈ clockReads, r.core = true → r.verdict = Verdict.volatile) ∧ (∃ r ∈ clockReads, r.core = true) := by
  decide +kernel

/-- the code under test never reads `time.monotonic`: the end-to-end differential may leave that one clock real
(the standard library's thread pool hangs on a monotonic clock that runs backwards) without losing coverage -/
theorem C01_no_monotonic_reads : monotonicReads = 0 := by decide

example : hashSites.length > 10 ∧ clockReads.length > 10 := by decide +kernel

/-! ### (P) permutation invariance of the canonicalisation patterns -/

/-- `sorted(<set>)`: the result does not depend on the iteration order (total, transitive, antisymmetric key) -/
theorem C01_sorted_site_perm_invariant {α : Type} (le : α → α → Bool)
    (total : ∀ a b, le a b = true ∨ le b a = true)
    (trans : ∀ a b c, le a b = true → le b c = true → le a c = true)
    (antisymm : ∀ a b, le a b = true → le b a = true → a = b)
    {l l' : List α} (hp : l.Perm l') : isort le l = isort le l' :=
  isort_perm_invariant le total trans hp (fun a _ b _ => antisymm a b)

example : isort (fun a b : Nat => decide (a ≤ b)) [3, 1, 2] = isort (fun a b : Nat => decide (a ≤ b)) [2, 3, 1] := by
  decide +kernel

/-- a fold by a right-commutative operation (set.add, counters, min/max without key) is order independent -/
theorem C01_commutative_fold_perm_invariant {α β : Type} (f : β → α → β)
    (comm : ∀ b x y, f (f b x) y = f (f b y) x) {l l' : List α} (hp : l.Perm l') :
    ∀ b, l.foldl f b = l'.foldl f b := by
  induction hp with
  | nil => intro b; rfl
  | cons x _ ih => intro b; simp only [List.foldl_cons]; exact ih _
  | swap x y l => intro b; simp only [List.foldl_cons]; rw [comm]
  | trans _ _ ih1 ih2 => intro b; rw [ih1, ih2]

example : [3, 1, 2].foldl (fun (m : Nat) x => min m x) 9 = [2, 3, 1].foldl (fun (m : Nat) x => min m x) 9 := by decide +kernel

/-- `min(<set>)` / `max(<set>)` without `key=` over a linear order -/
theorem C01_min_fold_perm_invariant {l l' : List Int} (hp : l.Perm l') (b : Int) :
    l.foldl min b = l'.foldl min b :=
  C01_commutative_fold_perm_invariant (fun m x => min m x) (fun b x y => by simp only [Int.min_assoc, Int.min_comm x y]) hp b

/-- membership / `any` / `all` -/
theorem C01_membership_perm_invariant {α : Type} {l l' : List α} (hp : l.Perm l') (p : α → Bool) :
    l.any p = l'.any p ∧ l.all p = l'.all p ∧ ∀ x, x ∈ l ↔ x ∈ l' := by
  refine ⟨?_, ?_, fun x => hp.mem_iff⟩
  · rw [Bool.eq_iff_iff]; simp only [List.any_eq_true]
    exact ⟨fun ⟨x, hx, h⟩ => ⟨x, hp.mem_iff.mp hx, h⟩, fun ⟨x, hx, h⟩ => ⟨x, hp.mem_iff.mpr hx, h⟩⟩
  · rw [Bool.eq_iff_iff]; simp only [List.all_eq_true]
    exact ⟨fun h x hx => h x (hp.mem_iff.mpr hx), fun h x hx => h x (hp.mem_iff.mp hx)⟩

/-- a dict built from a set and used only for key lookup (`idf[t]`, `t in idf`): lookups do not see the order -/
theorem C01_lookup_dict_perm_invariant {α β : Type} [BEq α] [LawfulBEq α] (f : α → β) {l l' : List α}
    (hp : l.Perm l') (k : α) : (l.map (fun t => (t, f t))).lookup k = (l'.map (fun t => (t, f t))).lookup k := by
  have key : ∀ l : List α, (l.map (fun t => (t, f t))).lookup k = if k ∈ l then some (f k) else none := by
    intro l
    induction l with
    | nil => rfl
    | cons a l ih =>
      rw [List.map_cons, List.lookup_cons, ih]
      by_cases h : k = a
      · rw [h, beq_iff_eq.mpr rfl, if_pos List.mem_cons_self]
      · rw [beq_false_of_ne h]
        simp only [List.mem_cons, h, false_or]
  rw [key, key]
  simp only [hp.mem_iff]

/-- the pre-fix `_suggest_key` (fold with strict `<`, first minimum wins): NOT order independent.
Candidates are (key, distance) pairs; `t1` and `t2` are both at distance 1 of `t5`. -/
def suggestFold (l : List (Nat × Nat)) : Option Nat × Nat :=
  l.foldl (fun (acc : Option Nat × Nat) kd => if kd.2 < acc.2 then (some kd.1, kd.2) else acc) (none, 99)

theorem C01_strict_min_fold_order_dependent :
    ∃ l l' : List (Nat × Nat), l.Perm l' ∧ suggestFold l ≠ suggestFold l' :=
  ⟨[(1, 1), (2, 1)], [(2, 1), (1, 1)], List.Perm.swap _ _ _, by decide +kernel⟩

/-- the repaired `_suggest_key` iterates `sorted(allowed)`: the fold is applied to a canonical list -/
theorem C01_suggest_key_sorted_invariant {l l' : List (Nat × Nat)} (hp : l.Perm l')
    (hk : ∀ a ∈ l, ∀ b ∈ l, a.1 = b.1 → a = b) :
    suggestFold (isort (fun a b => decide (a.1 ≤ b.1)) l) = suggestFold (isort (fun a b => decide (a.1 ≤ b.1)) l') := by
  congr 1
  apply isort_perm_invariant _ _ _ hp
  · intro a ha b hb h1 h2
    exact hk a ha b hb (Nat.le_antisymm (of_decide_eq_true h1) (of_decide_eq_true h2))
  · intro a b
    exact (Nat.le_total a.1 b.1).imp decide_eq_true decide_eq_true
  · intro a b c h1 h2
    exact decide_eq_true (Nat.le_trans (of_decide_eq_true h1) (of_decide_eq_true h2))

/-! ### normalisation -/

section
variable {st : Stream} {ident : List Int} {ms : Option Int} {now : Option Nat} {durs : Option (List Int)}
  {y : Option Bool} {si cm : Option Int}

/-! The three non-trivial branches of `normalize` under CI, on a record given by its fields. -/

theorem normalize_other (hi : st.identity = false) :
    normalize true ⟨st, ident, ms, now, durs, y, si, cm⟩ = ⟨st, ident, ms, now, durs, y, si, cm⟩ := by
  unfold normalize; dsimp only; rw [hi]; rfl

theorem normalize_stage (hi : st.identity = true) (ht : (st == .turn) = false) :
    normalize true ⟨st, ident, ms, now, durs, y, si, cm⟩ = ⟨st, ident, ms.map fun _ => 0, none, durs, y, si, cm⟩ := by
  unfold normalize; dsimp only; rw [hi, ht]; rfl

theorem normalize_turn (hi : st.identity = true) (ht : (st == .turn) = true) :
    normalize true ⟨st, ident, ms, now, durs, y, si, cm⟩ =
      if y == some true then ⟨st, ident, ms.map fun _ => 0, none, durs.map fun l => l.map fun _ => 0, y, si, cm⟩
      else ⟨st, ident, ms.map fun _ => 0, none, durs.map fun l => l.map fun _ => 0, none, none, cm⟩ := by
  unfold normalize; dsimp only; rw [hi, ht]; rfl

end

theorem zeroed_twice (m : Option Int) : (m.map fun _ => (0 : Int)).map (fun _ => (0 : Int)) = m.map fun _ => 0 := by
  cases m <;> rfl

theorem zeroedL_twice (d : Option (List Int)) :
    (d.map fun l => l.map fun _ => (0 : Int)).map (fun l => l.map fun _ => (0 : Int)) =
      d.map fun l => l.map fun _ => 0 := by
  cases d with
  | none => rfl
  | some l => exact congrArg some (List.map_map ..)

/-- `normalize_for_identity` is idempotent (on the fields a turn record carries; the generic-record version is C16's) -/
theorem C01_normalize_idempotent (ci : Bool) (r : Rec) : normalize ci (normalize ci r) = normalize ci r := by
  obtain ⟨st, ident, ms, now, durs, y, si, cm⟩ := r
  cases ci
  · rfl
  cases hi : st.identity
  · rw [normalize_other hi, normalize_other hi]
  cases ht : st == .turn
  · rw [normalize_stage hi ht, normalize_stage hi ht, zeroed_twice]
  · rw [normalize_turn hi ht]
    cases hy : y == some true
    · rw [if_neg Bool.false_ne_true, normalize_turn hi ht, if_neg (by decide), zeroed_twice,
        zeroedL_twice]
    · rw [if_pos rfl, normalize_turn hi ht, if_pos hy, zeroed_twice, zeroedL_twice]

/-- `normalize` neither reads nor writes `consumed.ms` -/
theorem normalize_consumedMs (ci : Bool) (r : Rec) (m : Option Int) :
    normalize ci { r with consumedMs := m } = { normalize ci r with consumedMs := m } := by
  obtain ⟨st, ident, ms, now, durs, y, si, cm⟩ := r
  cases ci
  · rfl
  cases hi : st.identity
  · rw [normalize_other hi, normalize_other hi]
  cases ht : st == .turn
  · rw [normalize_stage hi ht, normalize_stage hi ht]
  · rw [normalize_turn hi ht, normalize_turn hi ht]
    split <;> rfl

theorem C01_canonRec_idempotent (ci : Bool) (r : Rec) : canonRec ci (canonRec ci r) = canonRec ci r := by
  unfold canonRec
  rw [normalize_consumedMs, C01_normalize_idempotent]
  dsimp only
  rw [zeroed_twice]

/-- the model's `normalize` satisfies the monitor the harness evaluates on the REAL `normalize_for_identity` output
(volatile fields erased in identity streams — yielded turn records included — logical content untouched) -/
theorem C01_normalize_ok (ci : Bool) (r : Rec) : normOkB ci r (normalize ci r) = true := by
  obtain ⟨st, ident, ms, now, durs, y, si, cm⟩ := r
  unfold normOkB
  cases ci
  · exact beq_iff_eq.mpr rfl
  cases hi : st.identity
  · rw [normalize_other hi]
    simp
  cases ht : st == .turn
  · rw [normalize_stage hi ht]
    simp
  · rw [normalize_turn hi ht]
    cases hy : y == some true <;> simp [hy]

/-- what the monitor demands is exactly volatility: two records that differ only in `ms`, `now` and the values of
`durations_ms` (same number of them) have the same normal form under CI when they are turn records -/
theorem C01_normalize_erases_volatile (r : Rec) (ms ms' : Int) (nw nw' : Option Nat)
    (d d' : List Int) (hl : d.length = d'.length) (ht : r.stream = Stream.turn) :
    normalize true { r with ms := some ms, now := nw, durs := some d }
      = normalize true { r with ms := some ms', now := nw', durs := some d' } := by
  obtain ⟨st, ident, _, _, _, y, si, cm⟩ := r
  cases ht
  -- of the durations only their number survives
  have hd : d.map (fun _ => (0 : Int)) = d'.map (fun _ => 0) := by rw [List.map_const', List.map_const', hl]
  rw [normalize_turn rfl rfl, normalize_turn rfl rfl]
  dsimp only [Option.map_some]
  rw [hd]

/-! ### (N) the model's `normalize_for_identity`: idempotent, satisfies the monitor the harness runs on the real one, erases
     exactly the volatile fields of a turn record;
 (S) clock non-interference of the `run_turn` skeleton -/

/-- ONE TURN: two clock contributions that induce the same boundary decisions (time-based yield reasons, TTL
expiry) give the same canonical records, the same utterance and the same logical cache state. -/
theorem C01_turn_clock_noninterference (cfg : Cfg) (hci : cfg.ci = true) (d d' : Dec) (t : TurnIn) (c : List CEntry)
    (h : decEquivB cfg d d' = true) : canonOut cfg (turn cfg d t c) = canonOut cfg (turn cfg d' t c) :=
  turn_noninterference cfg hci d d' t c h

/-- TURN SEQUENCES on one state (the cache is threaded): by induction over the turn list. -/
theorem C01_run_clock_noninterference (cfg : Cfg) (hci : cfg.ci = true) :
    ∀ (xs xs' : List (Dec × TurnIn)) (c : List CEntry),
      List.Forall₂ (fun a b => a.2 = b.2 ∧ decEquivB cfg a.1 b.1 = true) xs xs' →
      (run cfg xs c).map (canonOut cfg) = (run cfg xs' c).map (canonOut cfg) := by
  intro xs xs' c h
  induction h generalizing c with
  | nil => rfl
  | @cons a b l l' hab _ ih =>
    obtain ⟨d, t⟩ := a
    obtain ⟨d', t'⟩ := b
    obtain ⟨ht, hd⟩ := hab
    simp only at ht hd
    subst ht
    simp only [run, List.map_cons]
    rw [turn_noninterference cfg hci d d' t c hd, turn_cache_congr cfg hci d d' t c hd]
    rw [ih]

/-- `C01_replay`: the canonical outcome of a turn sequence is a function of (configuration, logical turn inputs,
initial cache state) and of the clock-derived DECISIONS only. -/
theorem C01_replay (cfg : Cfg) (hci : cfg.ci = true) (ts : List TurnIn) (ds ds' : List Dec)
    (h : List.Forall₂ (fun d d' => decEquivB cfg d d' = true) ds ds') (hl : ds.length = ts.length) (c : List CEntry) :
    (run cfg (ds.zip ts) c).map (canonOut cfg) = (run cfg (ds'.zip ts) c).map (canonOut cfg) := by
  apply C01_run_clock_noninterference cfg hci
  induction h generalizing ts with
  | nil => exact .nil
  | cons hd _ ih =>
    cases ts with
    | nil => exact .nil
    | cons t ts => exact .cons ⟨rfl, hd⟩ (ih ts (Nat.succ.inj hl))

/-- With the scheduler off and no TTL decision (turn cache off, or ttl = 0 = "never expires") EVERY pair of clock
contributions is indistinguishable. -/
theorem C01_decEquiv_sched_off (cfg : Cfg) (hs : cfg.schedOn = false) (hc : cfg.cacheOn = false ∨ cfg.ttl = 0)
    (d d' : Dec) : decEquivB cfg d d' = true := by
  unfold decEquivB
  rw [hs, Bool.not_false, Bool.true_or, Bool.true_and]
  rcases hc with hc | hc
  · rw [hc]; rfl
  · have : ∀ d, expired cfg d = false := fun d => by unfold expired; rw [hc]; rfl
    rw [this, this, beq_iff_eq.mpr rfl, Bool.or_true]

/-- Full statement: ∀ clocks, canon (run clk) = canon (run clk').  Proved here under the guard
`scheduler off ∧ (turn cache off ∨ ttl = 0)`; the two negation witnesses below show the guard is needed. -/
theorem C01_clock_noninterference_sched_off_partial (cfg : Cfg) (hci : cfg.ci = true) (hs : cfg.schedOn = false)
    (hc : cfg.cacheOn = false ∨ cfg.ttl = 0) (ts : List TurnIn) (ds ds' : List Dec)
    (hl : ds.length = ts.length) (hl' : ds'.length = ts.length) (c : List CEntry) :
    (run cfg (ds.zip ts) c).map (canonOut cfg) = (run cfg (ds'.zip ts) c).map (canonOut cfg) :=
  C01_replay cfg hci ts ds ds'
    (List.forall₂_iff_zip.2 ⟨hl.trans hl'.symm, fun _ => C01_decEquiv_sched_off cfg hs hc _ _⟩) hl c

/-- a clock contribution is CALM when no elapsed reading reaches `wall_ms` or `quantum_ms` and the cache entry is
younger than the TTL -/
def calmB (cfg : Cfg) (d : Dec) : Bool :=
  (List.range 5).all (fun i => !wallHit cfg (d.elAt i) && !quantumHit cfg (d.elAt i)) && !expired cfg d

/-- under a calm clock no time-based decision fires: the clock contributes the constant answers -/
theorem calm_hits {cfg : Cfg} {d : Dec} (h : calmB cfg d = true) :
    timeHits cfg d = (List.range 5).map (fun _ => (false, false)) ∧ expired cfg d = false := by
  unfold calmB at h
  rw [Bool.and_eq_true, List.all_eq_true, Bool.not_eq_true'] at h
  refine ⟨List.map_congr_left fun i hi => ?_, h.2⟩
  have hi' := h.1 i hi
  rw [Bool.and_eq_true, Bool.not_eq_true', Bool.not_eq_true'] at hi'
  rw [hi'.1, hi'.2]

theorem C01_calm_decEquiv (cfg : Cfg) (d d' : Dec) (h : calmB cfg d = true) (h' : calmB cfg d' = true) :
    decEquivB cfg d d' = true := by
  unfold decEquivB
  rw [(calm_hits h).1, (calm_hits h').1, (calm_hits h).2, (calm_hits h').2, beq_iff_eq.mpr rfl, beq_iff_eq.mpr rfl,
    Bool.or_true, Bool.or_true]
  rfl

/-- Scheduler ON (and/or TTL cache on): equality holds for calm clocks — every elapsed reading below
`min wall_ms quantum_ms`, cache entries younger than the TTL.  (Budget-driven yields are logical and allowed.) -/
theorem C01_clock_noninterference_sched_on_partial (cfg : Cfg) (hci : cfg.ci = true) (d d' : Dec) (t : TurnIn)
    (c : List CEntry) (h : calmB cfg d = true) (h' : calmB cfg d' = true) :
    canonOut cfg (turn cfg d t c) = canonOut cfg (turn cfg d' t c) :=
  turn_noninterference cfg hci d d' t c (C01_calm_decEquiv cfg d d' h h')

/-- witness configuration: scheduler on, quantum 20 ms, wall 200 ms, no count budgets -/
def wCfgSched : Cfg :=
  { ci := true, schedOn := true, wallMs := some 200, quantumMs := 20, bIters := none, bPops := none, bK := none,
    bOps := none, t3On := true, t4On := true, cacheOn := false, ttl := 0, hasNow := false }

def wTurn : TurnIn :=
  { turn := 1, agent := 1, text := 7, ver := 0, slice := 1, t1Iters := some 2, t1Pops := some 5, t1Tok := 11,
    t2K := some 3, t2Tok := 22, ops := 1, utter := 33, t4Tok := 44, applyTok := 55, now := 0 }

/-- NEGATION of the full statement with the scheduler on: a slow clock (25 ms elapsed after T1) yields
QUANTUM_EXCEEDED after T1 — no T2/T4/apply records, empty utterance — a fast clock completes the turn. -/
theorem C01_sched_clock_dependence :
    ∃ (cfg : Cfg) (d d' : Dec) (t : TurnIn), cfg.ci = true ∧ cfg.schedOn = true ∧
      canonOut cfg (turn cfg d t []) ≠ canonOut cfg (turn cfg d' t []) :=
  ⟨wCfgSched, ⟨[0, 0, 0, 0, 0], 0, []⟩, ⟨[25, 0, 0, 0, 0], 0, []⟩, wTurn, rfl, rfl, by decide +kernel⟩

example : (turn wCfgSched ⟨[25, 0, 0, 0, 0], 0, []⟩ wTurn []).line = 0
    ∧ (turn wCfgSched ⟨[0, 0, 0, 0, 0], 0, []⟩ wTurn []).line = 33 := by decide +kernel

/-- witness configuration: scheduler off, turn-level cache on with the default 600 s TTL -/
def wCfgTtl : Cfg :=
  { ci := true, schedOn := false, wallMs := none, quantumMs := 20, bIters := none, bPops := none, bK := none,
    bOps := none, t3On := false, t4On := false, cacheOn := true, ttl := 600, hasNow := false }

/-- NEGATION of the full statement with the scheduler OFF: the same text at the same version twice; when more than
`ttl` seconds of wall time pass between the turns the entry expires and `cache_hit` in t2.jsonl / turn.jsonl flips. -/
theorem C01_ttl_clock_dependence :
    ∃ (cfg : Cfg) (ds ds' : List Dec) (ts : List TurnIn), cfg.ci = true ∧ cfg.schedOn = false ∧
      (run cfg (ds.zip ts) []).map (canonOut cfg) ≠ (run cfg (ds'.zip ts) []).map (canonOut cfg) :=
  ⟨wCfgTtl, [⟨[], 0, []⟩, ⟨[], 1, []⟩], [⟨[], 0, []⟩, ⟨[], 601, []⟩], [wTurn, { wTurn with turn := 2 }],
    rfl, rfl, by decide +kernel⟩

/-- non-vacuity of the positive theorems: a two-turn run with non-empty T1/T2 records, a cache hit on the second turn -/
example : ((run wCfgTtl ([⟨[], 0, [5, 6, 7]⟩, ⟨[], 1, [8, 9]⟩].zip [wTurn, { wTurn with turn := 2 }]) []).map
    (fun o => (canonOut wCfgTtl o).recs.length)) = [3, 3] := by decide +kernel

example : calmB wCfgSched ⟨[0, 3, 5, 7, 19], 0, [1, 2, 3]⟩ = true := by decide +kernel

/-! ### warm process vs fresh process (process-global stage caches) -/

/-- which requests of a history are served from the cache (what the T1/T2 records expose as
`cache_hits` / `cache_used`) -/
def hitFlags {σ K V X : Type} (C : CacheSem σ K V) (key : X → K) (f : X → V) : σ → List (Ev X) → List Bool
  | _, [] => []
  | s, e :: es =>
    (match e with
      | .req x => ((C.get s (key x)).2).isSome
      | .other _ => false) :: hitFlags C key f (stepCached C key f s e).1 es

/-- Warm vs fresh process, VALUES: a stage behind a process-global cache returns the same results over any
history whether the cache starts empty (fresh process) or holds entries computed by the same stage in an earlier
execution (warm process) — GIVEN that the cache key is sufficient (C05's obligation; where C05 reports an
insufficient key, this hypothesis fails and the warm process may return stale values). -/
theorem C01_warm_process_partial {σ K V X : Type} (C : CacheSem σ K V) (key : X → K) (f : X → V)
    (hs : Sufficient key f) (es : List (Ev X)) (fresh warm : σ)
    (hf : ∀ k v, ¬ C.holds fresh k v) (hw : Good C key f warm) :
    runCached C key f warm es = runCached C key f fresh es := by
  rw [transparent_of_sufficient C key f hs es warm hw,
      transparent_of_sufficient C key f hs es fresh (good_of_empty C key f fresh hf)]

/-- ... but NOT the hit/miss bookkeeping, which t1.jsonl / t2.jsonl record: the same request is a miss in a fresh
process and a hit in a warm one (known finding C01:warm-process:stage-cache). -/
theorem C01_warm_process_hit_flags_differ :
    ∃ (fresh warm : Clem.LruBytes.State) (es : List (Ev Nat)),
      (∀ k v, ¬ (Clem.LruBytes.cacheSem (fun _ _ => 1)).holds fresh k v) ∧
      Good (Clem.LruBytes.cacheSem (fun _ _ => 1)) id id warm ∧
      hitFlags (Clem.LruBytes.cacheSem (fun _ _ => 1)) id id fresh es
        ≠ hitFlags (Clem.LruBytes.cacheSem (fun _ _ => 1)) id id warm es := by
  refine ⟨Clem.LruBytes.init 4 100,
          (stepCached (Clem.LruBytes.cacheSem (fun _ _ => 1)) id id (Clem.LruBytes.init 4 100) (Ev.req 7)).1,
          [Ev.req 7], ?_, ?_, by decide +kernel⟩
  · intro k v h
    obtain ⟨e, hm, _⟩ := h
    simp [Clem.LruBytes.init] at hm
  · apply good_step (Clem.LruBytes.cacheSem (fun _ _ => 1)) id id _ (Ev.req 7)
    apply good_of_empty
    intro k v h
    obtain ⟨e, hm, _⟩ := h
    simp [Clem.LruBytes.init] at hm
