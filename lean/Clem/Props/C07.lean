/-
C07 — Delta snapshots reconstruct the full payload exactly.

Statements are about `Clem.Delta` (lean/Clem/Model/Delta.lean), the executable model of
`clematis/engine/util/snapshot_delta.py` *with the proposed repair applied*
(`proposed_fixes/C07_delta_paths_and_strict_leaves.diff`: escaped path segments, `""` is a path,
leaves compared by type and value) and of the file-level logic of `write_snapshot_auto` /
`read_snapshot`.  The same definitions are linked into `clemdrv` and compared with the real code.

"Equal" is `J.Equiv`: the same JSON document — same key set at every level (whatever the keys
contain), identical leaves (type and value: `1`, `true`, `1.0`, `-0.0`, `0.0` pairwise different),
arrays element-wise; only the order of keys inside an object is ignored, exactly as Python's `==`
on dicts and the canonical writer (`sort_keys=True`) ignore it.  `J.wf` (pairwise distinct keys in
every object) is the representation invariant of a Python dict, not a restriction on payloads.
-/
import Clem.Proofs.DeltaCore
import Clem.Props.C07.Legacy

namespace Clem.Props.C07
open Clem.Py Clem.Py.J Clem.Delta

/-! ### the equality notion -/

/-- `J.Equiv` is an equivalence relation … -/
theorem C07_equiv_is_equivalence :
    (∀ a : J, Equiv a a) ∧ (∀ a b : J, Equiv a b → Equiv b a) ∧
    (∀ a b c : J, Equiv a b → Equiv b c → Equiv a c) :=
  ⟨J.Equiv.refl, fun _ _ h => h.symm, fun _ _ _ h1 h2 => h1.trans h2⟩

/-- … that is plain equality on everything that is not an object (scalars keep type and value,
    arrays of scalars are identical): only the order of keys inside objects is abstracted. -/
theorem C07_equiv_scalar_exact (a b : J) (h : Equiv a b) (ha : ∀ xs, a ≠ .arr xs) (ho : ∀ es, a ≠ .obj es) :
    a = b := by
  cases h with
  | null | bool | int | flt | str => rfl
  | anil => exact absurd rfl (ha _)
  | acons => exact absurd rfl (ha _)
  | obj => exact absurd rfl (ho _)

example : ¬ Equiv (.int 1) (.bool true) := fun h => by cases h
example : ¬ Equiv (.obj [([97], .int 1)]) (.obj [([97], .flt 4607182418800017408)]) := fun h => by
  cases h with
  | obj _ h2 => exact absurd (h2 [97] _ _ rfl rfl) (fun h => by cases h)
example : Equiv (.obj [([97], .int 1), ([98], .null)]) (.obj [([98], .null), ([97], .int 1)]) :=
  eqv_sound (by decide +kernel)

/-! ### path codec -/

/-- `_split_path(_join_path(segs)) == segs` for every non-empty tuple of keys: dots, backslashes,
    empty strings and arbitrary code points in keys are all preserved. -/
theorem C07_path_codec_lossless (segs : List Str) (h : segs ≠ []) :
    splitPath (joinPath segs) = segs := splitPath_joinPath segs h

example : splitPath (joinPath [[97, 46, 98], [], [92], [233]]) = [[97, 46, 98], [], [92], [233]] := by decide +kernel

/-- different key tuples never collide on the same path string. -/
theorem C07_path_codec_injective (s t : List Str) (hs : s ≠ []) (ht : t ≠ [])
    (h : joinPath s = joinPath t) : s = t := by
  rw [← splitPath_joinPath s hs, ← splitPath_joinPath t ht, h]

/-! ### leaf comparison -/

/-- `_same_value` never identifies two different JSON documents (so a skipped "mod" is safe). -/
theorem C07_same_value_strict (a b : J) (h : same a b = true) : Equiv a b := eqvG_sound false a b h

/-- `1`, `True`, `1.0` and `0.0` / `-0.0` are kept apart (the Python `==` confusions). -/
example : same (.int 1) (.bool true) = false ∧ same (.int 1) (.flt 4607182418800017408) = false ∧
    same (.bool true) (.flt 4607182418800017408) = false ∧
    same (.flt 0) (.flt 9223372036854775808) = false ∧
    same (.arr [.int 1]) (.arr [.bool true]) = false := by decide +kernel

/-- the Boolean monitor evaluated by the driver on implementation outputs is sound. -/
theorem C07_monitor_sound (a b : J) (h : eqv a b = true) : Equiv a b := eqv_sound h

/-! ### round trip -/

/-- **Main theorem.**  For all payloads `base`, `cur` (objects, or `None`/non-dicts which the codec
    reads as `{}`): `apply_delta(base, compute_delta(base, cur))` is the same JSON document as
    `cur`.  Unbounded: no limit on size, depth, or on what the keys look like. -/
theorem C07_roundtrip (base cur : J) (hb : wf base = true) (hc : wf cur = true) :
    Equiv (.obj (applyDelta base (computeDelta base cur))) (.obj (entries cur)) := by
  rw [applyDelta_eq]
  refine applyItems_walkO_equiv (entries base) (entries cur) [] _ (wf_entries hb) (wf_entries hc) ?_
  intro it
  simp only [opsOf, computeDelta, List.mem_append, List.mem_map, mem_isort, Prod.exists]
  constructor
  · rintro ((⟨p, v, h, rfl⟩ | ⟨p, v, h, rfl⟩) | ⟨p, h, rfl⟩)
    · exact (mem_addsOf _ p v).1 h
    · exact (mem_modsOf _ p v).1 h
    · exact (mem_delsOf _ p).1 h
  · intro h
    cases it with
    | add p v => exact Or.inl (Or.inl ⟨p, v, (mem_addsOf _ p v).2 h, rfl⟩)
    | mod p v => exact Or.inl (Or.inr ⟨p, v, (mem_modsOf _ p v).2 h, rfl⟩)
    | del p => exact Or.inr ⟨p, (mem_delsOf _ p).2 h, rfl⟩

/-- for an object `cur` the statement reads literally `apply(base, delta(base, cur)) ≈ cur`. -/
theorem C07_roundtrip_obj (base : J) (ce : List (Str × J)) (hb : wf base = true)
    (hc : wf (.obj ce) = true) :
    Equiv (.obj (applyDelta base (computeDelta base (.obj ce)))) (.obj ce) :=
  C07_roundtrip base (.obj ce) hb hc

/-- Determinism / order-independence: ANY list of operations with the same members as
    `_walk_diff(base, cur)` — whatever its order or multiplicities, so in particular the
    `sorted(...)` orders used by `apply_delta` and any dict iteration order — rebuilds `cur`. -/
theorem C07_apply_order_irrelevant (be ce : List (Str × J)) (ops : List Item)
    (hb : wf (.obj be) = true) (hc : wf (.obj ce) = true)
    (h : ∀ it, it ∈ ops ↔ it ∈ walkO [] be ce) :
    Equiv (.obj (applyItems 0 ops be)) (.obj ce) :=
  applyItems_walkO_equiv be ce [] ops hb hc h

/-! non-vacuity: the formerly failing classes, evaluated by the kernel on the model -/

-- {} → {"a.b": 1}
example : eqv (.obj (applyDelta (.obj []) (computeDelta (.obj []) (.obj [([97, 46, 98], .int 1)]))))
    (.obj [([97, 46, 98], .int 1)]) = true := by decide +kernel
-- {"": 1} → {"": 2, "a": {"": true}}
example : eqv (.obj (applyDelta (.obj [([], .int 1)])
      (computeDelta (.obj [([], .int 1)]) (.obj [([], .int 2), ([97], .obj [([], .bool true)])]))))
    (.obj [([], .int 2), ([97], .obj [([], .bool true)])]) = true := by decide +kernel
-- {"a": 1} → {"a": true}
example : applyDelta (.obj [([97], .int 1)]) (computeDelta (.obj [([97], .int 1)]) (.obj [([97], .bool true)]))
    = [([97], .bool true)] := by decide +kernel
-- {"a.b": 1, "a": {"b": 2}} → {"a": {"b": 2}}   (dotted delete)
example : applyDelta (.obj [([97, 46, 98], .int 1), ([97], .obj [([98], .int 2)])])
      (computeDelta (.obj [([97, 46, 98], .int 1), ([97], .obj [([98], .int 2)])]) (.obj [([97], .obj [([98], .int 2)])]))
    = [([97], .obj [([98], .int 2)])] := by decide +kernel
example : wf (.obj [([97, 46, 98], .int 1), ([97], .obj [([98], .int 2)])]) = true := by decide +kernel

/-! ### file level: `write_snapshot_auto` / `read_snapshot` -/

/-- the delta branch of `write_snapshot_auto`: with a readable baseline it writes the delta file. -/
theorem writeAuto_delta (d : Dir) {ef : Str} (et : Str) {x : Option Str} {y : Bool} {bp : J} (p : J)
    (hef : ef ≠ []) (hbase : d (.full ef) = .ok x y bp) :
    writeAuto d (some ef) et p true =
      some (d.put (.delta et) (.ok (some ef) true (computeDelta (orEmpty bp) p).toJ), Mode.delta) := by
  simp only [writeAuto, List.isEmpty_eq_false_iff.2 hef, hbase]
  rfl

/-- the round trip through the wire form of the delta, as every reader of a delta file performs it. -/
theorem roundtrip_wire (bp : J) (pe : List (Str × J)) (hwb : wf bp = true) (hwp : wf (.obj pe) = true) :
    Equiv (.obj (applyDelta (orEmpty bp) (Delta.ofJ (orEmpty (computeDelta (orEmpty bp) (.obj pe)).toJ))))
      (.obj pe) := by
  rw [ofJ_toJ]
  exact C07_roundtrip (orEmpty bp) (.obj pe) (wf_orEmpty hwb) hwp

/-- A delta-mode snapshot written with its (readable) baseline present is a delta file, and reading
    it back returns the full payload. -/
theorem C07_auto_delta_read (d : Dir) (ef et : Str) (x : Option Str) (y : Bool) (bp : J)
    (pe : List (Str × J)) (hef : ef ≠ []) (hbase : d (.full ef) = .ok x y bp)
    (hwb : wf bp = true) (hwp : wf (.obj pe) = true) :
    ∃ d' r, writeAuto d (some ef) et (.obj pe) true = some (d', Mode.delta) ∧
      readSnapshot d' et = .payload r ∧ Equiv r (.obj pe) := by
  have hne : (Stem.full ef = Stem.delta et) = False := by simp
  refine ⟨_, _, writeAuto_delta d et (.obj pe) hef hbase, ?_, roundtrip_wire bp pe hwb hwp⟩
  simp only [readSnapshot, Dir.put, if_true, List.isEmpty_eq_false_iff.2 hef, hne, if_false, hbase]
  rfl

/-- The same through `read_snapshot(path=<delta file>)`, and through the delta branch of
    `load_latest_snapshot`: with the baseline present both work on the reconstructed full payload. -/
theorem C07_path_and_loader_delta_read (d : Dir) (ef et : Str) (x : Option Str) (y : Bool) (bp : J)
    (pe : List (Str × J)) (hef : ef ≠ []) (hbase : d (.full ef) = .ok x y bp)
    (hwb : wf bp = true) (hwp : wf (.obj pe) = true) :
    ∃ d' r, writeAuto d (some ef) et (.obj pe) true = some (d', Mode.delta) ∧
      readPath d' (.delta et) = .payload r ∧ loadLatestDelta d' et = .reconstructed r ∧
      Equiv r (.obj pe) := by
  have hne : (Stem.full ef = Stem.delta et) = False := by simp
  refine ⟨_, _, writeAuto_delta d et (.obj pe) hef hbase, ?_, ?_, roundtrip_wire bp pe hwb hwp⟩
  · simp only [readPath, Dir.put, if_true, hne, if_false, hbase]
  · simp only [loadLatestDelta, Dir.put, if_true, hne, if_false, hbase]

/-- Loader (with `proposed_fixes/C07_load_latest_missing_baseline.diff`): a delta file whose
    baseline is absent is never loaded as if it were a payload — the loader takes the sibling full
    snapshot of the same etag or reports that nothing was loaded. -/
theorem C07_loader_missing_baseline (d : Dir) (et ef : Str) (dp : J)
    (hd : d (.delta et) = .ok (some ef) true dp) (hb : d (.full ef) = .missing) :
    loadLatestDelta d et = .notLoaded ∨
      ∃ x z p, d (.full et) = .ok x z p ∧ loadLatestDelta d et = .sibling p := by
  simp only [loadLatestDelta, hd, hb]
  split
  · exact Or.inl rfl
  · cases h : d (.full et) with
    | missing => exact Or.inl rfl
    | corrupt => exact Or.inl rfl
    | ok x z p => exact Or.inr ⟨x, z, p, rfl, rfl⟩

/-- `read_snapshot(path=…)` on a delta file whose baseline is absent: same fallback as the etag branch. -/
theorem C07_path_fallback_read (d : Dir) (et ef : Str) (dp : J)
    (hd : d (.delta et) = .ok (some ef) true dp) (hb : d (.full ef) = .missing) :
    readPath d (.delta et) = readFull d et := by
  simp only [readPath, hd, hb, if_true]

/-- Writer fallback: delta requested, baseline file absent ⇒ a *full* snapshot of the payload is
    written (and nothing else changes). -/
theorem C07_auto_fallback_write (d : Dir) (ef : Option Str) (et : Str) (p : J)
    (h : ∀ e, ef = some e → d (.full e) = .missing) :
    writeAuto d ef et p true = some (d.put (.full et) (.ok none false p), Mode.full) := by
  cases ef with
  | none => rfl
  | some e =>
    simp only [writeAuto, h e rfl]
    split <;> rfl

/-- Reader fallback: a delta file whose baseline is absent is never patched onto anything — the
    reader answers exactly what the sibling full file gives: its payload, `{}` (absence), or the
    parse error of an unreadable file. -/
theorem C07_auto_fallback_read (d : Dir) (et ef : Str) (y : Bool) (dp : J)
    (hd : d (.delta et) = .ok (some ef) y dp) (hb : d (.full ef) = .missing) :
    readSnapshot d et = readFull d et ∧
    (readFull d et = .payload (.obj []) ∨ readFull d et = .raised ∨
      ∃ x z p, d (.full et) = .ok x z p ∧ readFull d et = .payload (orEmpty p)) := by
  constructor
  · simp only [readSnapshot, hd, hb]
    split <;> rfl
  · unfold readFull
    cases h : d (.full et) with
    | missing => exact Or.inl rfl
    | corrupt => exact Or.inr (Or.inl rfl)
    | ok x z p => exact Or.inr (Or.inr ⟨x, z, p, rfl, rfl⟩)

/-- An unreadable baseline makes both writer and reader raise (report, not reconstruct). -/
theorem C07_auto_corrupt_baseline_raises (d : Dir) (ef et : Str) (p dp : J) (y : Bool) (hef : ef ≠ [])
    (hb : d (.full ef) = .corrupt) :
    writeAuto d (some ef) et p true = none ∧
    (d (.delta et) = .ok (some ef) y dp → readSnapshot d et = .raised) := by
  have he := List.isEmpty_eq_false_iff.2 hef
  constructor
  · simp only [writeAuto, he, hb]; rfl
  · intro hd
    simp only [readSnapshot, hd, he, hb]; rfl

/-- non-vacuity of the file-level statements: a concrete directory. -/
example : ∃ d' , writeAuto (Dir.put (fun _ => FileSt.missing) (.full [101]) (.ok none false (.obj [([97, 46, 98], .int 1)])))
    (some [101]) [102] (.obj [([97, 46, 98], .bool true)]) true = some (d', Mode.delta) := ⟨_, rfl⟩

end Clem.Props.C07
