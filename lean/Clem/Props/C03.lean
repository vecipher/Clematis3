import Clem.Proofs.T4
import Clem.Props.C03.Perm
import Mathlib.Algebra.Order.Field.Rat
import Mathlib.Analysis.Real.Sqrt

/-!
# C03 — Meta-filter output always stays inside the safety envelope

Property theorems about the executable model `Clem/Model/T4.lean` of `stages/t4.py` — the very
definitions `clemdrv` runs at `Float` against the real `t4_filter`.

* Structural clauses (unique targets, churn count, cooldown, proposed-only, canonical order, blocked
  ops reported) are proved for EVERY carrier `[Num α]` — including the `Float` instance the driver runs.
* Numeric clauses (novelty cap, L2 cap, top-K dominance, merge = per-key sum, permutation invariance)
  are proved at any ordered field, `sqrt` a parameter whose two laws are hypotheses (discharged for `ℝ`
  in the non-vacuity examples).
* `Clem/Props/C03/Perm.lean`: permutation invariance at every carrier whose `≤` is a total order, and
  the regression witnesses.
-/

set_option linter.unusedSectionVars false

namespace Clem.T4
open Clem.Py

/-! ## Clauses that hold over every number carrier -/
section AnyCarrier
variable {α : Type} [Num α] (sqrt : α → α) (thr : α) (inp : Input α)

/-- The documented pipeline, as an equation: merge duplicates, cooldown, novelty clamp, uniform L2
scaling, keep top-K, canonical order. -/
theorem C03_pipeline_spec :
    (t4 sqrt thr inp).approved =
      isort ckeyLe (churnCap (l2Scale sqrt (noveltyClamp
        ((combine inp.deltas).filter (notBlocked (blockedOps inp))) inp.capNov) inp.capL2) inp.k) := rfl

/-- at most one delta per target -/
theorem C03_unique_targets : ((t4 sqrt thr inp).approved.map ckey).Nodup :=
  nodup_keys_of_subperm (approved_subperm sqrt inp) (nodup_keys_afterCd inp)

/-- at most churn-cap many (`0 ≤ k` is the validator's range) -/
theorem C03_churn (hk : 0 ≤ inp.k) : ((t4 sqrt thr inp).approved.length : Int) ≤ inp.k := by
  show ((approved sqrt inp).length : Int) ≤ inp.k
  simp only [approved, length_isort, kept, churnCap]
  split
  · assumption
  · rw [List.length_take]
    simp only [sliceLen, hk, if_true]
    omega

/-- which ops are blocked: exactly those whose kind has a non-zero cooldown, an `int` last turn,
and `turn - last < cooldown` -/
theorem C03_blocked_iff (i : Nat) : i ∈ blockedOps inp ↔
    ∃ kind, inp.ops[i]? = some kind ∧ kind ≠ [] ∧ ∃ cd, lookup kind inp.cooldowns = some cd ∧ cd ≠ 0 ∧
      ∃ lt, lookup kind inp.last = some (some lt) ∧ getTurn inp.turns - lt < cd := by
  unfold blockedOps
  rw [mem_blockedFrom]
  constructor
  · rintro ⟨n, kind, rfl, hn, hp⟩
    exact ⟨kind, by simpa using hn, (opBlocked_iff _ _ _ _).1 hp⟩
  · rintro ⟨kind, hn, hp⟩
    exact ⟨i, kind, by simp, hn, (opBlocked_iff _ _ _ _).2 hp⟩

/-- none of the approved deltas has a recorded provenance (`op_idx`) in cooldown -/
theorem C03_cooldown : ∀ d ∈ (t4 sqrt thr inp).approved, ∀ j, d.opIdx = some j →
    ∀ i ∈ blockedOps inp, (i : Int) ≠ j := by
  intro d hd
  obtain ⟨e, _, h1, hs⟩ := approved_from_combine sqrt inp hd
  rw [← notBlocked_strip, hs, notBlocked_strip] at h1
  exact (notBlocked_iff _ _).1 h1

/-- only for targets that were proposed: kind, id and attr are those of a listed delta -/
theorem C03_subset : ∀ d ∈ (t4 sqrt thr inp).approved,
    ∃ d₀ ∈ inp.deltas, d₀.kind = d.kind ∧ d₀.id = d.id ∧ d₀.attr = d.attr := by
  intro d hd
  obtain ⟨e, he, _, hs⟩ := approved_from_combine sqrt inp hd
  obtain ⟨d₀, _, hg, h1, h2, h3, _⟩ := mem_combineC_spec ((combine_perm _).subset he)
  exact ⟨d₀, (mem_of_grp_eq_cons hg).1, h1.symm.trans (congrArg (Delta.kind (α := Unit)) hs),
    h2.symm.trans (congrArg (Delta.id (α := Unit)) hs), h3.symm.trans (congrArg (Delta.attr (α := Unit)) hs)⟩

/-- the approved list is in canonical target order (strictly increasing string keys) -/
theorem C03_sorted : (t4 sqrt thr inp).approved.Pairwise (fun a b => lexLt (ckey a) (ckey b) = true) := by
  have h1 : (approved sqrt inp).Pairwise (fun a b => ckeyLe a b = true) :=
    isort_pairwise ckeyLe (fun a b => lexLe_total _ _) (fun _ _ _ => lexLe_trans) _
  have h2 := C03_unique_targets sqrt thr inp
  rw [List.Nodup, List.pairwise_map] at h2
  exact (h1.and h2).imp (fun ⟨h, hne⟩ => (lexLt_iff _ _).2 ⟨h, hne⟩)

/-- blocked operations are reported: exactly the blocked indices, ascending, with their kinds -/
theorem C03_rejected_sorted :
    (t4 sqrt thr inp).rejected.map Prod.snd = blockedOps inp ∧
    ((t4 sqrt thr inp).rejected.map Prod.snd).Pairwise (· < ·) ∧
    ∀ p ∈ (t4 sqrt thr inp).rejected, inp.ops[p.2]? = some p.1 := by
  have h0 : (rejectedOps inp).map Prod.snd = blockedOps inp := by
    simp [rejectedOps, List.map_map, Function.comp_def]
  refine ⟨h0, ?_, ?_⟩
  · show ((rejectedOps inp).map Prod.snd).Pairwise (· < ·)
    rw [h0]; exact blockedFrom_sorted _ _ _
  · intro p hp
    simp only [t4, rejectedOps, List.mem_map] at hp
    obtain ⟨i, hi, rfl⟩ := hp
    obtain ⟨kind, hk, _⟩ := (C03_blocked_iff inp i).1 hi
    simp [List.getD, hk]

/-- merged duplicates: one entry per distinct string key, sorted, nothing invented -/
theorem C03_combine_keys (ds : List (Delta α)) :
    ((combine ds).map ckey).Nodup ∧ (∀ k, k ∈ (combine ds).map ckey ↔ k ∈ ds.map ckey) := by
  refine ⟨nodup_keys_combine ds, fun k => ?_⟩
  rw [← mem_keys_combineAcc ds k, ← keys_combineC]
  exact ((combine_perm ds).map ckey).mem_iff

/-- what the reasons report: `DELTA_NORM_HIGH ↔ scale < 0.999999`, `COOLDOWN_BLOCKED ↔` some op was
rejected, `CHURN_CAP_HIT ↔` a tail was dropped, `NOVELTY_SPIKE ↔` something was clamped -/
theorem C03_scale_reason :
    ((t4 sqrt thr inp).rNorm = true ↔ Num.lt (t4 sqrt thr inp).scale thr = true) ∧
    ((t4 sqrt thr inp).rCooldown = true ↔ (t4 sqrt thr inp).rejected ≠ []) ∧
    ((t4 sqrt thr inp).rChurn = true ↔ 0 < (t4 sqrt thr inp).droppedTail) ∧
    ((t4 sqrt thr inp).rNovelty = true ↔ 0 < (t4 sqrt thr inp).noveltyClamped) := by
  simp [t4, rejectedOps]

end AnyCarrier

/-! ## Numeric clauses, at any ordered field -/
section OrderedField
variable {α : Type} [Field α] [LinearOrder α] [IsStrictOrderedRing α]
variable (sqrt : α → α) (thr : α) (inp : Input α)

/-- each approved magnitude is at most the novelty cap (`0 < capL2` is the validator's range) -/
theorem C03_novelty (hc : 0 < inp.capL2) : ∀ d ∈ (t4 sqrt thr inp).approved, |d.delta| ≤ |inp.capNov| := by
  intro d hd
  have hd' : d ∈ scaled sqrt inp := (approved_subperm_scaled sqrt inp).subset hd
  obtain ⟨e, he, _, hle⟩ := abs_l2Scale sqrt (clamped inp) inp.capL2 hc d hd'
  exact hle.trans (abs_noveltyClamp inp.capNov (afterCd inp) e he)

/-- overall L2 norm at most the cap: `Σ δ² ≤ capL2²` -/
theorem C03_l2 (hs0 : ∀ x, 0 ≤ sqrt x) (hs : ∀ x, 0 ≤ x → sqrt x * sqrt x = x) (hc : 0 < inp.capL2) :
    sumSq (t4 sqrt thr inp).approved ≤ inp.capL2 * inp.capL2 :=
  (sumSq_le_of_subperm (approved_subperm_scaled sqrt inp)).trans (sumSq_l2Scale_le sqrt hs0 hs _ _)

/-- `_l2_norm` (fix for `C03:t4:l2.tiny-cap`): on both of its paths — plain `sqrt(Σδ²)` and the
largest-magnitude-factored-out path taken when `Σδ² < 2^-512` — the value is the non-negative root of
the exact sum of squares, and it is `0` only when every delta is `0`; so `norm == 0.0` can no longer
skip the scaling of a non-zero vector. -/
theorem C03_l2_norm_exact (hs0 : ∀ x, 0 ≤ sqrt x) (hs : ∀ x, 0 ≤ x → sqrt x * sqrt x = x)
    (ds : List (Delta α)) :
    0 ≤ l2Norm sqrt ds ∧ l2Norm sqrt ds * l2Norm sqrt ds = sumSq ds ∧
    (l2Norm sqrt ds = 0 ↔ ∀ d ∈ ds, d.delta = 0) :=
  l2Norm_spec sqrt hs0 hs ds

/-- the L2 predicate does not change when the cap and every delta are multiplied by the same positive
factor — the driver uses this to evaluate it at `Float` for caps so small that squares would underflow -/
theorem C03_monL2_scale_invariant (c : α) (hc : 0 < c) (slack cap : α) (out : List (Delta α)) :
    monL2 slack (c * cap) (out.map (scaleBy c)) = monL2 slack cap out := by
  simp only [monL2, num_le, num_mul, num_add, num_one, sumSq_map_scaleBy]
  rw [decide_eq_decide, mul_mul_mul_comm c cap, mul_assoc (c * c)]
  exact mul_le_mul_iff_of_pos_left (mul_pos hc hc)

/-- keep top-K by magnitude: every approved delta ranks strictly before every candidate (after
scaling) whose target was not approved, under `(-|Δ|, ckey)` -/
theorem C03_churn_topk : ∀ a ∈ (t4 sqrt thr inp).approved, ∀ c ∈ scaled sqrt inp,
    ckey c ∉ (t4 sqrt thr inp).approved.map ckey → rankLt a c = true := by
  intro a ha c hc hnc
  have hp : (approved sqrt inp).Perm (kept sqrt inp) := isort_perm _ _
  refine churnCap_topk (scaled sqrt inp) inp.k (hp.subset ha) hc ?_
  intro h
  exact hnc ((hp.map ckey).symm.subset h)

/-- `rankLt a c` read out: larger magnitude first, ties by the smaller string key -/
theorem C03_rank_meaning (a c : Delta α) : rankLt a c = true ↔
    |c.delta| < |a.delta| ∨ (|a.delta| = |c.delta| ∧ lexLt (ckey a) (ckey c) = true) := by
  rw [rankLt_iff, neg_lt_neg_iff, neg_inj]

/-- over an ordered field the canonical-order sum is just the sum -/
theorem sumSorted_eq_sum (vs : List α) : sumSorted vs = vs.sum := by
  unfold sumSorted
  rw [← (isort_perm (Num.le (α := α)) vs).sum_eq]
  cases isort (Num.le (α := α)) vs with
  | nil => rfl
  | cons v rest => exact (foldl_add_map id rest v).trans (by rw [List.map_id, List.sum_cons])

/-- merge = per-key sum: the merged entry of a key carries the sum of all contributions listed for
that key (summed in ascending order, `_sum_canonical`), the smallest `op_idx`/`idx`
(`_min_optional_int` folded in listing order), and the target fields of the first one listed. -/
theorem C03_combine_sum (ds : List (Delta α)) : ∀ e ∈ combine ds,
    e.delta = sumSorted (contribs (ckey e) ds) ∧ e.delta = (contribs (ckey e) ds).sum ∧
    ∃ d rest, grp (ckey e) ds = d :: rest ∧ e.kind = d.kind ∧ e.id = d.id ∧ e.attr = d.attr ∧
      e.opIdx = rest.foldl (fun m x => minOpt m x.opIdx) d.opIdx ∧
      e.idx = rest.foldl (fun m x => minOpt m x.idx) d.idx := by
  intro e he
  obtain ⟨d, rest, hg, h1, h2, h3, h4, h5, h6⟩ := mem_combineC_spec ((combine_perm ds).subset he)
  exact ⟨h4, h4.trans (sumSorted_eq_sum _), d, rest, hg, h1, h2, h3, h5, h6⟩

/-! ### the Bool monitors the driver evaluates on the REAL `T4Result` are exactly these theorems -/

/-- The nine envelope monitors of `Clem/Model/T4.lean` are `true` on the model's own output (any
slack ≥ 0); the tenth, `monPipeline`, is `C03_pipeline_monitor`. -/
theorem C03_monitors_hold (hs0 : ∀ x, 0 ≤ sqrt x) (hs : ∀ x, 0 ≤ x → sqrt x * sqrt x = x)
    (hc : 0 < inp.capL2) (hk : 0 ≤ inp.k) (slack : α) (hsl : 0 ≤ slack) :
    let r := t4 sqrt thr inp
    monUnique r.approved = true ∧ monSorted r.approved = true ∧ monNovelty inp.capNov r.approved = true ∧
    monL2 slack inp.capL2 r.approved = true ∧ monChurn inp.k r.approved = true ∧
    monCooldown inp r.approved = true ∧ monSubset inp r.approved = true ∧ monRejected inp r.rejected = true ∧
    monTopK (scaled sqrt inp) r.approved = true := by
  intro r
  refine ⟨?_, ?_, ?_, ?_, ?_, ?_, ?_, ?_, ?_⟩
  · rw [monUnique, allPairs_iff]
    exact (List.pairwise_map.1 (C03_unique_targets sqrt thr inp)).imp bne_iff_ne.2
  · rw [monSorted, allPairs_iff]; exact C03_sorted sqrt thr inp
  · simp only [monNovelty, List.all_eq_true, num_le, num_abs, decide_eq_true_eq]
    exact C03_novelty sqrt thr inp hc
  · exact decide_eq_true ((C03_l2 sqrt thr inp hs0 hs hc).trans
      (le_mul_of_one_le_right (mul_self_nonneg _) (le_add_of_nonneg_right hsl)))
  · simp only [monChurn, decide_eq_true_eq]; exact C03_churn sqrt thr inp hk
  · simp only [monCooldown, List.all_eq_true]
    intro d hd
    exact (notBlocked_iff _ _).2 (C03_cooldown sqrt thr inp d hd)
  · simp only [monSubset, List.all_eq_true, List.any_eq_true, Bool.and_eq_true, beq_iff_eq]
    intro d hd
    obtain ⟨d₀, h0, h1, h2, h3⟩ := C03_subset sqrt thr inp d hd
    exact ⟨d₀, h0, ⟨h1, h2⟩, h3⟩
  · exact beq_iff_eq.mpr rfl
  · simp only [monTopK, Bool.and_eq_true, List.all_eq_true, List.any_eq_true, beq_iff_eq, num_beq,
      decide_eq_true_eq, Bool.or_eq_true]
    refine ⟨fun a ha => ⟨a, (approved_subperm_scaled sqrt inp).subset ha, rfl, rfl⟩, ?_⟩
    intro a ha c hc'
    by_cases hm : ckey c ∈ r.approved.map ckey
    · exact Or.inl (List.mem_map.1 hm)
    · exact Or.inr (C03_churn_topk sqrt thr inp a ha c hc' hm)

/-- the pipeline monitor holds of the model's own output, for every tolerance `≥ 0` -/
theorem C03_pipeline_monitor (tol : α) (ht : 0 ≤ tol) :
    monPipeline tol (approved sqrt inp) (t4 sqrt thr inp).approved = true :=
  monPipeline_self ht (approved sqrt inp)

end OrderedField

/-! ## Non-vacuity -/

/-- the hypotheses on `sqrt` are satisfiable: `ℝ` with `Real.sqrt` -/
example (thr : ℝ) (inp : Input ℝ) (hc : 0 < inp.capL2) :
    sumSq (t4 Real.sqrt thr inp).approved ≤ inp.capL2 * inp.capL2 :=
  C03_l2 Real.sqrt thr inp Real.sqrt_nonneg (fun _ hx => Real.mul_self_sqrt hx) hc

example (thr : ℝ) (inp : Input ℝ) (hc : 0 < inp.capL2) (hk : 0 ≤ inp.k) :
    monL2 0 inp.capL2 (t4 Real.sqrt thr inp).approved = true :=
  (C03_monitors_hold Real.sqrt thr inp Real.sqrt_nonneg (fun _ hx => Real.mul_self_sqrt hx) hc hk 0 le_rfl).2.2.2.1

example (ds : List (Delta ℝ)) : l2Norm Real.sqrt ds * l2Norm Real.sqrt ds = sumSq ds :=
  (C03_l2_norm_exact Real.sqrt Real.sqrt_nonneg (fun _ hx => Real.mul_self_sqrt hx) ds).2.1

example (thr : ℝ) (inp : Input ℝ) (hc : 0 < inp.capL2) :
    ∀ d ∈ (t4 Real.sqrt thr inp).approved, |d.delta| ≤ |inp.capNov| := C03_novelty Real.sqrt thr inp hc

/-- One plan over `ℚ` in which every stage bites at once: a duplicate target (merged), an op in
cooldown (its delta dropped, the op reported), a clamp, an L2 scaling (`sqrt` replaced by a rational
over-estimate — only the structural clauses are exercised here) and a dropped tail. -/
def exInput : Input ℚ :=
  { deltas := [⟨[110], [97], [119], 1/5, some 0, some 0⟩, ⟨[110], [97], [119], 1/5, some 0, some 1⟩,
               ⟨[110], [98], [119], 1/10, some 1, some 2⟩, ⟨[110], [99], [119], -1/4, none, some 3⟩,
               ⟨[110], [100], [119], 1/20, some 0, none⟩]
    ops := [[69], [83]], cooldowns := [([83], 2)], last := [([83], some 4)], turns := [none, some 5]
    capL2 := 1/4, capNov := 3/10, k := 2 }

example : ((t4 (fun x => x + 1/4) (999999/1000000) exInput).approved.map (fun d => (d.id, d.delta)) =
      [([97], 5/27), ([99], -25/162)]) ∧
    (t4 (fun x => x + 1/4) (999999/1000000) exInput).rejected = [([83], 1)] ∧
    (t4 (fun x => x + 1/4) (999999/1000000) exInput).noveltyClamped = 1 ∧
    (t4 (fun x => x + 1/4) (999999/1000000) exInput).droppedTail = 1 ∧
    (t4 (fun x => x + 1/4) (999999/1000000) exInput).rNorm = true := by
  decide +kernel

example : ((t4 (fun x => x + 1/4) (999999/1000000) exInput).approved.length : Int) ≤ 2 :=
  C03_churn _ _ exInput (by decide)

example : (1 : Nat) ∈ blockedOps exInput := by decide +kernel

end Clem.T4
