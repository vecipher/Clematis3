/-
C16 (framing clause): "every record appended to a JSONL stream appears as exactly one complete
LF-terminated JSON line, also with concurrent writers, and records of one writer keep their
order … compaction rewrites preserve the records".

Model: `Clem/Model/LogFrame.lean`.  One append = ONE binary write of `enc r ++ "\n"` (atomicity of
an O_APPEND `write` is the trusted assumption; `C16_torn_write_witness` shows it is needed);
`enc` emits no raw LF (trusted property of `json.dumps`, sampled by the harness).
-/
import Clem.Proofs.LogFrame

namespace Clem.Props.C16
open Clem.LogFrame

/-- Sequential framing is lossless: parsing the file gives back exactly the encoded records. -/
theorem C16_frame_lossless (ls : List Bytes) (h : ∀ l ∈ ls, LF ∉ l) :
    parseLines (ls.map frame).flatten = (ls, []) :=
  parseLines_eq_iff.mpr ⟨(List.append_nil _).symm, h, List.not_mem_nil⟩

/-- A file accepted by the monitor IS the concatenation of exactly these LF-terminated lines
(no torn, partial or extra bytes), and no line contains a raw LF. -/
theorem C16_parse_roundtrip (file : Bytes) (ls : List Bytes) (h : parseLines file = (ls, [])) :
    file = (ls.map frame).flatten ∧ ∀ l ∈ ls, LF ∉ l := by
  obtain ⟨e, hl, _⟩ := parseLines_eq_iff.mp h
  exact ⟨e.trans (List.append_nil _), hl⟩

theorem C16_wellFramed_iff (file : Bytes) (ls : List Bytes) :
    wellFramedB file ls = true ↔ parseLines file = (ls, []) := by
  simp only [wellFramedB, Bool.and_eq_true, beq_iff_eq, Prod.ext_iff]

/-- **Concurrent writers.**  For ANY schedule of atomic appends by any number of writers, the
file parses into exactly the appended lines, in append order … -/
theorem C16_interleave_file (qs : List (List Bytes)) (sched : List Nat)
    (h : ∀ q ∈ qs, ∀ l ∈ q, LF ∉ l) :
    parseLines (exec qs sched).file = ((exec qs sched).trace.map (·.2), []) := by
  have inv := inv_exec qs sched
  have := C16_frame_lossless ((exec qs sched).trace.map (·.2)) (List.forall_mem_map.mpr
    fun e he => (inv.tr e he).elim fun q hq => h q hq.1 _ hq.2)
  rw [inv.file]
  rwa [List.map_map] at this

/-- … each writer's lines appear in that writer's own order, none lost, none duplicated (what is
not yet in the file is still pending) … -/
theorem C16_interleave_per_writer (qs : List (List Bytes)) (sched : List Nat) (w : Nat) :
    linesOf w (exec qs sched).trace ++ (exec qs sched).pending.getD w [] = qs.getD w [] :=
  (inv_exec qs sched).writer w

/-- … so once every writer is done, writer `w`'s lines in the file are exactly its records. -/
theorem C16_interleave_complete (qs : List (List Bytes)) (sched : List Nat)
    (hdone : ∀ q ∈ (exec qs sched).pending, q = []) (w : Nat) :
    linesOf w (exec qs sched).trace = qs.getD w [] := by
  have h := C16_interleave_per_writer qs sched w
  have e : (exec qs sched).pending.getD w [] = [] := by
    rw [List.getD_eq_getElem?_getD]
    cases hg : (exec qs sched).pending[w]? with
    | none => rfl
    | some q => exact hdone q (List.mem_of_getElem? hg)
  rw [e, List.append_nil] at h
  exact h

/-- exactly one line per appended record. -/
theorem C16_interleave_count (qs : List (List Bytes)) (sched : List Nat) :
    (exec qs sched).trace.length + ((exec qs sched).pending.map List.length).sum
      = (qs.map List.length).sum :=
  (inv_exec qs sched).count

/-! ### raw-write granularity (the atomic step is one `write(2)`) -/

/-- If every raw-write chunk ends at a line end, the concatenation of ANY sequence of such chunks
parses into exactly the chunks' lines, in order, nothing torn or glued. -/
theorem C16_chunks_complete_parse (cs : List Bytes) (h : chunksCompleteB cs = true) :
    parseLines cs.flatten = ((cs.map (fun c => (parseLines c).1)).flatten, []) :=
  parseLines_flatten (chunksCompleteB_iff.mp h)

/-- … in particular every interleaving of two writers whose raw writes are complete: the
monitor `chunksCompleteB` on each writer suffices for all schedules. -/
theorem C16_merges_complete (w1 w2 : List Bytes) (h1 : chunksCompleteB w1 = true)
    (h2 : chunksCompleteB w2 = true) (m : List Bytes) (hm : m ∈ merges w1 w2) :
    chunksCompleteB m = true ∧
    parseLines m.flatten = ((m.map (fun c => (parseLines c).1)).flatten, []) := by
  have hc : chunksCompleteB m = true := chunksCompleteB_iff.mpr fun c hcm =>
    (mem_merges hm c hcm).elim (chunksCompleteB_iff.mp h1 c) (chunksCompleteB_iff.mp h2 c)
  exact ⟨hc, C16_chunks_complete_parse m hc⟩

/-- One append = one complete frame in one raw write is accepted … -/
theorem C16_single_write_ok (l : Bytes) (h : LF ∉ l) : rawWritesOkB [frame l] (frame l) = true := by
  have p := C16_frame_lossless [l] (List.forall_mem_singleton.mpr h)
  rw [List.map_singleton, List.flatten_singleton] at p
  rw [rawWritesOkB, Bool.and_eq_true, chunksCompleteB_iff, beq_iff_eq]
  exact ⟨fun c hc => by rw [List.mem_singleton.mp hc, p], List.flatten_singleton⟩

/-- … while payload and LF in two raw writes (what a buffered handle does with
`f.write(data); f.write(b"\n")` once `data` exceeds the buffer) is rejected, and rightly so: one
interleaving of two such writers glues the records and detaches an empty line. -/
theorem C16_split_write_witness :
    rawWritesOkB [[1, 2], [LF]] (frame [1, 2]) = false ∧
    [[1, 2], [7], [LF], [LF]] ∈ merges [[1, 2], [LF]] [[7], [LF]] ∧
    parseLines ([[1, 2], [7], [LF], [LF]] : List Bytes).flatten = ([[1, 2, 7], []], []) ∧
    allMergesFramedB [[1, 2], [LF]] [[7], [LF]] [[1, 2], [7]] = false ∧
    allMergesFramedB [frame [1, 2]] [frame [7]] [[1, 2], [7]] = true := by decide +kernel

/-- **Compaction rewrite.**  The payload written by `rewrite_jsonl` (one canonical line per
normalised record, then `atomic_write_text`'s CRLF→LF replacement) parses back into exactly
those lines, provided the encoder emits no raw LF/CR. -/
theorem C16_rewrite_preserves (ls : List Bytes) (h : ∀ l ∈ ls, LF ∉ l ∧ CR ∉ l) :
    parseLines (rewritePayload ls) = (ls, []) := by
  rw [rewritePayload, replaceCRLF_id]
  · exact C16_frame_lossless ls fun l hl => (h l hl).1
  · intro hm
    obtain ⟨f, hf, hc⟩ := List.mem_flatten.mp hm
    obtain ⟨l, hl, rfl⟩ := List.mem_map.mp hf
    rcases List.mem_append.mp hc with hc | hc
    · exact (h l hl).2 hc
    · exact absurd (List.mem_singleton.mp hc) (by decide)

/-- Atomicity of the append is needed: if writer A's framed line `[1,2,3]` is written in two
chunks and writer B's line `[7]` lands in between, the file does not parse into the writers'
lines. -/
theorem C16_torn_write_witness :
    parseLines ([1, 2] ++ frame [7] ++ [3] ++ [LF]) = ([[1, 2, 7], [3]], []) ∧
    parseLines (frame [1, 2, 3] ++ frame [7]) = ([[1, 2, 3], [7]], []) := by decide +kernel

/-- A raw LF inside an encoded record would break framing (why `enc` must not emit one). -/
theorem C16_raw_lf_witness : parseLines (frame [1, LF, 2]) = ([[1], [2]], []) := by decide +kernel

/-! ### non-vacuity -/
example : parseLines ([[1, 2], [], [3]].map frame).flatten = ([[1, 2], [], [3]], []) := by
  decide +kernel
example : (∀ q ∈ [[[1], [2]], [[3]]], ∀ l ∈ q, LF ∉ l) := by decide +kernel
example : (exec [[[1], [2]], [[3]]] [1, 0, 5, 1, 0]).trace = [(1, [3]), (0, [1]), (0, [2])] := by
  decide +kernel
example : (exec [[[1], [2]], [[3]]] [1, 0, 5, 1, 0]).file = [3, 10, 1, 10, 2, 10] := by decide +kernel
example : ∀ q ∈ (exec [[[1], [2]], [[3]]] [1, 0, 5, 1, 0]).pending, q = [] := by decide +kernel
example : parseLines (rewritePayload [[1, 2], [3]]) = ([[1, 2], [3]], []) := by decide +kernel
/-- a raw CRLF in the payload *would* be altered by the rewrite path. -/
example : rewritePayload [[1, CR]] = [1, LF] := by decide +kernel

end Clem.Props.C16
