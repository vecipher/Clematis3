/-
C16 (normalisation clause): "CI identity normalisation changes only the volatile fields of
identity streams (durations, timestamps, non-yield slice markers) and is idempotent".

Model: `Clem/Model/LogJson.lean` (`normalize ci name rec` = `normalize_for_identity`, records are
insertion-ordered association lists, untouched values are opaque).  No uniqueness-of-keys
hypothesis is needed.  `volatile name` = {ms} for t3_reflection.jsonl, {ms, now} for the identity
streams, plus {durations_ms, yielded, slice_idx} for turn.jsonl, ∅ otherwise.
-/
import Clem.Proofs.LogJson

namespace Clem.Props.C16
open Clem.LogJson

/-- Idempotent, for every CI setting, stream name and record. -/
theorem C16_normalize_idempotent (ci : Bool) (name : Str) (r : Rec) :
    normalize ci name (normalize ci name r) = normalize ci name r :=
  normalize_idem ci name r

/-- Only volatile fields are touched: the sub-record of non-volatile fields keeps its values
AND its order. -/
theorem C16_normalize_only_volatile (ci : Bool) (name : Str) (r : Rec) :
    stable name (normalize ci name r) = stable name r := by
  cases ci with
  | false => rfl
  | true =>
    show outside (volatile name) (normalize true name r) = outside (volatile name) r
    rcases normalize_true_cases name with ⟨e, v⟩ | ⟨e, v⟩ | ⟨e, v⟩ | ⟨e, v⟩ <;> rw [e, v]
    · exact outside_setIf _ kMs _ (by decide) r
    · rw [outside_normTurn _ (by decide) (by decide) (by decide),
        outside_normBase _ (by decide) (by decide)]
    · exact outside_normBase _ (by decide) (by decide) r

/-- `CI` not `true`: the identity function. -/
theorem C16_normalize_ci_off (name : Str) (r : Rec) : normalize false name r = r := rfl

/-- streams outside the identity set (and other than t3_reflection) are never changed. -/
theorem C16_normalize_other_streams (ci : Bool) (name : Str) (r : Rec)
    (h1 : name ≠ nReflection) (h2 : Gen.Logs.identityLogsIo.contains name = false) :
    normalize ci name r = r := by
  cases ci with
  | false => rfl
  | true => simp only [normalize, h1, h2, Bool.not_true, Bool.false_eq_true, if_false]

/-- a record without volatile fields is the stable part of its own normalisation. -/
theorem C16_normalize_volatile_free (ci : Bool) (name : Str) (r : Rec)
    (h : stable name r = r) : stable name (normalize ci name r) = r := by
  rw [C16_normalize_only_volatile, h]

/-- On identity streams (and t3_reflection) under CI every surviving `ms` is `0.0` and `ms` is
present iff it was … -/
theorem C16_normalize_ms_zeroed (name : Str) (r : Rec) (h : (volatile name).contains kMs = true) :
    msZero (normalize true name r) = true ∧
    (keys (normalize true name r)).contains kMs = (keys r).contains kMs := by
  have hb : (keys (normBase r)).contains kMs = (keys r).contains kMs := by
    unfold normBase
    rw [has_pop _ _ (by decide), keys_setIf]
  rcases normalize_true_cases name with ⟨e, v⟩ | ⟨e, v⟩ | ⟨e, v⟩ | ⟨e, v⟩ <;> rw [e]
  · exact ⟨msZero_setIf_ms r, by rw [keys_setIf]⟩
  · exact ⟨msZero_normTurn _ (msZero_normBase r), by rw [has_normTurn _ (by decide) (by decide), hb]⟩
  · exact ⟨msZero_normBase r, hb⟩
  · rw [v] at h
    cases h

/-- … and on identity streams `now` is gone. -/
theorem C16_normalize_now_dropped (name : Str) (r : Rec) (h : (volatile name).contains kNow = true) :
    (keys (normalize true name r)).contains kNow = false := by
  rcases normalize_true_cases name with ⟨e, v⟩ | ⟨e, v⟩ | ⟨e, v⟩ | ⟨e, v⟩ <;> rw [e] <;> rw [v] at h
  · exact absurd h (by decide)
  · rw [has_normTurn _ (by decide) (by decide)]
    exact has_pop_self _ _
  · exact has_pop_self _ _
  · cases h

/-- The executable monitor accepts the model's own output: it demands no more than the theorems. -/
theorem C16_normalize_monitor_accepts_model (ci : Bool) (name : Str) (r : Rec) :
    normOkB ci name r (normalize ci name r) = true := by
  rw [normOkB, C16_normalize_only_volatile, beq_iff_eq.mpr rfl, Bool.true_and]
  cases ci with
  | false =>
    exact Bool.and_eq_true_iff.mpr ⟨Bool.and_eq_true_iff.mpr ⟨beq_iff_eq.mpr rfl, rfl⟩, rfl⟩
  | true =>
    refine Bool.and_eq_true_iff.mpr ⟨Bool.and_eq_true_iff.mpr ⟨rfl, ?_⟩, ?_⟩
    · by_cases hm : (volatile name).contains kMs = true
      · have z := C16_normalize_ms_zeroed name r hm
        rw [Bool.true_and, if_pos hm, z.2, beq_iff_eq.mpr rfl, Bool.and_true]
        exact z.1
      · rw [Bool.true_and, if_neg hm]
    · by_cases hn : (volatile name).contains kNow = true
      · rw [Bool.true_and, if_pos hn, C16_normalize_now_dropped name r hn]
        rfl
      · rw [Bool.true_and, if_neg hn]

/-! ### tables regenerated from the source (checked by `decide` on every run) -/

/-- the two copies of `_IDENTITY_LOGS` (io_logging.py, io/log.py) agree. -/
theorem C16_identity_copies_agree : Gen.Logs.identityLogsIo = Gen.Logs.identityLogsLog := by decide +kernel

/-- every field `normalize_for_identity` assigns or pops is a volatile field. -/
theorem C16_touched_fields_are_volatile :
    ∀ k ∈ Gen.Logs.normalizeWritten ++ Gen.Logs.normalizePopped, k ∈ volatile nTurn := by decide +kernel

/-- the stream names it compares literally are the ones modelled. -/
theorem C16_name_literals : Gen.Logs.normalizeNameLiterals = [nReflection, nTurn] := by decide +kernel

theorem C16_turn_is_identity_log :
    Gen.Logs.identityLogsIo.contains nTurn = true ∧
    Gen.Logs.identityLogsIo.contains nReflection = false := by decide +kernel

/-! ### concrete records (turn.jsonl) -/
def demoTurn (yielded : V) : Rec :=
  [([116], .opq 1 true (some 5) none 1),                       -- "t": 5
   (kMs, .opq 2 true none none 4),                             -- "ms": 12.5
   (kNow, .opq 3 true none none 20),                           -- "now": "2026-…"
   (kDur, .opq 4 true none (some [[97], [98]]) 20),            -- "durations_ms": {"a":…, "b":…}
   (kYielded, yielded),
   (kSlice, .opq 6 true (some 3) none 3),                      -- "slice_idx": "3"
   ([122], .opq 7 false none none 2)]                          -- "z": []

/-- yield: markers kept (slice index coerced to int), durations and ms zeroed, now dropped. -/
example : normalize true nTurn (demoTurn (.opq 5 true none none 3)) =
    [([116], .opq 1 true (some 5) none 1), (kMs, .flt0), (kDur, .zeros [[97], [98]]),
     (kYielded, .tru), (kSlice, .int 3), ([122], .opq 7 false none none 2)] := by decide +kernel
/-- no yield: markers stripped. -/
example : normalize true nTurn (demoTurn (.opq 5 false none none 5)) =
    [([116], .opq 1 true (some 5) none 1), (kMs, .flt0), (kDur, .zeros [[97], [98]]),
     ([122], .opq 7 false none none 2)] := by decide +kernel
/-- t3_reflection: only `ms`. -/
example : keys (normalize true nReflection (demoTurn .tru)) = keys (demoTurn .tru) := by decide +kernel
example : stable nTurn (demoTurn .tru) = [([116], .opq 1 true (some 5) none 1), ([122], .opq 7 false none none 2)] := by
  decide +kernel
example : normOkB true nTurn (demoTurn .tru) (normalize true nTurn (demoTurn .tru)) = true := by decide +kernel
/-- the monitor rejects a normalisation that also drops a non-volatile field. -/
example : normOkB true nTurn (demoTurn .tru) (pop [122] (normalize true nTurn (demoTurn .tru))) = false := by
  decide +kernel
example : ciOn [84, 114, 117, 101] = true ∧ ciOn [49] = false ∧ ciOn [] = false := by decide +kernel

end Clem.Props.C16
