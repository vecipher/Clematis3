/-
C16 (staging clause): "staged records are flushed in (turn, stage order, slice, arrival) order
whatever the staging limit".

Model: `Clem/Model/LogStager.lean` — `LogStager.stage/drain_sorted`, `default_key_for`, and the
drain-flush-retry loop of `_run_agents_parallel_batch` (`runBatch ci limit arrivals` returns the
sequence handed to the writer and whether the loop finished without the retry raising).

What holds for EVERY byte limit and EVERY arrival order:
  * the written sequence is a concatenation of key-sorted flushes that cut the arrival sequence into
    consecutive chunks (`C16_stager_flush_structure`);
  * each flush (drain) is sorted by the full key and is a permutation of the buffer;
  * nothing is lost or duplicated.
What additionally needs *key-monotone arrivals per file* (a later arrival for the same file never
has a smaller (turn, slice)): the sequence written to each file is the arrival sequence, hence
sorted and independent of the limit.  The batch driver stages with one constant (turn, slice)
per batch (`C16_batch_arrivals_monotone`), so its callers satisfy the hypothesis; the stager
alone does not enforce it: `C16_stager_limit_dependence_witness` (DESIGN §5 row 16).
-/
import Clem.Proofs.LogStager

namespace Clem.Props.C16
open Clem.LogStager Clem.LogJson Clem.Py

/-- Every flush is in `(turn, stage_ord, slice, seq, path)` order, a permutation of what was
buffered, and empties the buffer — for any buffer content (any limit, any arrival order). -/
theorem C16_stager_drain_sorted (s : Stager) :
    (drain s).2.Pairwise (fun x y => keyLe x y = true) ∧ (drain s).2.Perm s.buf ∧
    (drain s).1.buf = [] ∧ (drain s).1.bytes = 0 ∧ (drain s).1.seq = s.seq :=
  ⟨isort_keyLe_pairwise s.buf, isort_perm keyLe s.buf, rfl, rfl, rfl⟩

/-- the executable monitor `sortedB` is exactly that order. -/
theorem C16_sortedB_iff (l : List SRec) :
    sortedB l = true ↔ l.Pairwise (fun x y => keyLe x y = true) := by
  induction l with
  | nil => exact ⟨fun _ => .nil, fun _ => rfl⟩
  | cons a l ih =>
    show (l.all (fun b => keyLe a b) && sortedB l) = true ↔ _
    rw [Bool.and_eq_true, List.all_eq_true, List.pairwise_cons, ih]

/-- A successful `stage` appends exactly the normalised record and respects the byte bound. -/
theorem C16_stager_stage_bound (ci : Bool) (s s' : Stager) (path : Str) (k : Key) (pl : Rec)
    (h : stage ci s path k pl = some s') :
    (s'.bytes : Int) ≤ s'.limit ∧
    s'.buf = s.buf ++ [⟨path, k, normalize ci (basename path) pl,
                        estimate (normalize ci (basename path) pl)⟩] := by
  rw [stage_eq] at h
  by_cases c : ((s.bytes + estimate (normalize ci (basename path) pl) : Nat) : Int) ≤ s.limit
  · cases (if_pos c).symm.trans h
    exact ⟨c, rfl⟩
  · cases (if_neg c).symm.trans h

/-- **Flush structure, unconditional.**  For every byte limit and every arrival order, what the
loop hands to the writer is a concatenation of flushes, each sorted by the full key, and the
flushes cut the arrival sequence into consecutive chunks (a record is never written before a
record of an earlier flush, nothing is lost, duplicated or invented). -/
theorem C16_stager_flush_structure (ci : Bool) (limit : Int) (as : List Arrival) (w : List SRec)
    (h : runBatch ci limit as = (w, true)) :
    ∃ chunks : List (List SRec),
      chunks.flatten = mkRecs ci 0 as ∧ w = (chunks.map (isort keyLe)).flatten ∧
      ∀ c ∈ chunks, (isort keyLe c).Pairwise (fun x y => keyLe x y = true) := by
  obtain ⟨chunks, h1, h2⟩ := runBatch_chunks h
  exact ⟨chunks, h1, h2, fun c _ => isort_keyLe_pairwise c⟩

/-- Lossless: when the loop finishes, what was handed to the writer is a permutation of the
records handed to `stage` — for every limit and arrival order. -/
theorem C16_stager_lossless (ci : Bool) (limit : Int) (as : List Arrival) (w : List SRec)
    (h : runBatch ci limit as = (w, true)) : w.Perm (mkRecs ci 0 as) := by
  obtain ⟨chunks, h1, rfl⟩ := runBatch_chunks h
  exact h1 ▸ flatten_map_isort_perm chunks

/-- **Per-file order.**  Under key-monotone arrivals per file, for EVERY byte limit the sequence
written to each file is exactly that file's arrival sequence … -/
theorem C16_stager_perfile_order (ci : Bool) (limit : Int) (as : List Arrival) (w : List SRec)
    (h : runBatch ci limit as = (w, true)) (hm : monoPerFileB as = true) (p : Str) :
    fileSeq p w = fileSeq p (mkRecs ci 0 as) :=
  runBatch_perfile h hm p

/-- … hence sorted by the key … -/
theorem C16_stager_perfile_sorted (ci : Bool) (limit : Int) (as : List Arrival) (w : List SRec)
    (h : runBatch ci limit as = (w, true)) (hm : monoPerFileB as = true) (p : Str) :
    (fileSeq p w).Pairwise (fun x y => keyLe x y = true) := by
  rw [C16_stager_perfile_order ci limit as w h hm p]
  exact (fileSeq_pairwise_of_mono ci p as 0 hm).imp (fun hxy => hxy.1)

/-- … and independent of the staging limit. -/
theorem C16_stager_limit_independent (ci : Bool) (l1 l2 : Int) (as : List Arrival)
    (w1 w2 : List SRec) (h1 : runBatch ci l1 as = (w1, true)) (h2 : runBatch ci l2 as = (w2, true))
    (hm : monoPerFileB as = true) (p : Str) : fileSeq p w1 = fileSeq p w2 := by
  rw [C16_stager_perfile_order ci l1 as w1 h1 hm p, C16_stager_perfile_order ci l2 as w2 h2 hm p]

/-- The batch driver stages every record of a batch with the same `(turn_id, slice_idx)`
(`_clone_ctx_for_agent` copies both from the batch ctx): such arrivals are key-monotone. -/
theorem C16_batch_arrivals_monotone (t sl : Int) (as : List Arrival)
    (h : ∀ a ∈ as, a.turn = t ∧ a.slice = sl) : monoPerFileB as = true :=
  monoPerFileB_of_const t sl as h

/-! ### the hypothesis is needed: limit-dependence witness (DESIGN §5 row 16)

Full-strength statement (NOT a theorem of the stager alone):
  `∀ ci l1 l2 as w1 w2 p, runBatch ci l1 as = (w1, true) → runBatch ci l2 as = (w2, true) →
     fileSeq p w1 = fileSeq p w2`.
Turn 2 staged before turn 1 for the same file: with room for both they are flushed together in
key order (turn 1 first); with room for one, back-pressure flushes turn 2 first. -/

def wPath : Str := [116, 49, 46, 106, 115, 111, 110, 108]  -- "t1.jsonl"
def wPayload (id : Nat) : Rec := [([97], .opq id true none none 10)]  -- {"a": <10 chars>}: est 13
def wArrivals : List Arrival := [⟨wPath, 2, 0, wPayload 0⟩, ⟨wPath, 1, 0, wPayload 1⟩]

theorem C16_stager_limit_dependence_witness :
    (runBatch false 100 wArrivals).2 = true ∧ (runBatch false 20 wArrivals).2 = true ∧
    ((fileSeq wPath (runBatch false 100 wArrivals).1).map (·.key.turn)) = [1, 2] ∧
    ((fileSeq wPath (runBatch false 20 wArrivals).1).map (·.key.turn)) = [2, 1] ∧
    monoPerFileB wArrivals = false := by decide +kernel

theorem C16_stager_limit_independent_unconditional_false :
    ¬ (∀ (ci : Bool) (l1 l2 : Int) (as : List Arrival) (w1 w2 : List SRec) (p : Str),
        runBatch ci l1 as = (w1, true) → runBatch ci l2 as = (w2, true) →
        fileSeq p w1 = fileSeq p w2) := by
  intro h
  have := h false 100 20 wArrivals _ _ wPath rfl rfl
  have c := congrArg (List.map (·.key.turn)) this
  revert c
  decide +kernel

/-- A limit below one record's estimate: the retry raises as well, the loop is left, the record
(and everything after it) is never written (stager-level behaviour, see DESIGN §5 row 10). -/
theorem C16_stager_retry_raises_witness :
    runBatch false 5 wArrivals = ([], false) := by decide +kernel

/-! ### tables regenerated from the source -/

/-- the sort key of `drain_sorted` is the one modelled by `keyLe`. -/
theorem C16_drain_key_table : Gen.Logs.drainKey =
    [[107, 101, 121, 46, 116, 117, 114, 110, 95, 105, 100],            -- key.turn_id
     [107, 101, 121, 46, 115, 116, 97, 103, 101, 95, 111, 114, 100],   -- key.stage_ord
     [107, 101, 121, 46, 115, 108, 105, 99, 101, 95, 105, 100, 120],   -- key.slice_idx
     [107, 101, 121, 46, 115, 101, 113],                               -- key.seq
     [102, 105, 108, 101, 95, 112, 97, 116, 104]] := rfl                       -- file_path

/-- `STAGE_ORD` assigns distinct ordinals, all below the default for unknown streams. -/
theorem C16_stage_ord_table :
    (Gen.Logs.stageOrd.map (·.2)).Nodup ∧ (Gen.Logs.stageOrd.map (·.1)).Nodup ∧
    ∀ e ∈ Gen.Logs.stageOrd, e.2 < Gen.Logs.stageOrdDefault := by decide +kernel

/-! ### non-vacuity -/
def okArrivals : List Arrival :=
  [⟨wPath, 1, 0, wPayload 0⟩, ⟨nTurn, 1, 0, wPayload 1⟩, ⟨wPath, 1, 1, wPayload 2⟩, ⟨wPath, 2, 0, wPayload 3⟩]

example : monoPerFileB okArrivals = true := by decide +kernel
example : (runBatch false 30 okArrivals).2 = true ∧ (runBatch false 1000 okArrivals).2 = true := by decide +kernel
/-- a back-pressure flush really happens under the small limit (the global write order differs) … -/
example : (runBatch false 30 okArrivals).1.map (·.key.seq) = [1, 2, 3, 4] ∧
    (runBatch false 1000 okArrivals).1.map (·.key.seq) = [1, 3, 2, 4] := by decide +kernel
/-- … while each file sees the same sequence. -/
example : fileSeq wPath (runBatch false 30 okArrivals).1 = fileSeq wPath (runBatch false 1000 okArrivals).1 := by
  decide +kernel
example : stageOrdOf (basename [120, 47, 116, 117, 114, 110, 46, 106, 115, 111, 110, 108]) = 8 := by decide +kernel
example : stageOrdOf [102, 111, 111] = 99 := by decide +kernel

end Clem.Props.C16
