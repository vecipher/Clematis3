/-
C16 (rotation clause): "rotation keeps the newest N generations in order without losing any
but the oldest", for all histories (any pre-existing set of generations, gaps included, any
backup count) and every interruption point between two primitive steps of `rotate_one`.

Model: `Clem/Model/LogRotate.lean` (`steps` = the list of `os.remove` / `os.replace` calls the
code performs, `crashState fs b j` = state after a crash following the first `j` of them).
-/
import Clem.Gen.Logs
import Clem.Proofs.LogRotate

namespace Clem.Props.C16
open Clem.LogRotate

/-- `backups < 1`: nothing is touched, `False` is returned. -/
theorem C16_rotate_noop (fs : FS) (b : Int) (h : b < 1) :
    rotateOne fs b = fs ∧ rotated fs b = false ∧ steps fs b = [] := by
  have e : steps fs b = [] := if_pos h
  exact ⟨congrArg (exec fs) e, if_pos h, e⟩

/-- Completed rotation: generation `i` (1 ≤ i ≤ N) holds what generation `i-1` held, `path`
itself is gone, generations beyond `N` are untouched; only the previous `path.N` is lost. -/
theorem C16_rotate_keeps_newest (fs : FS) (b : Int) (h : 1 ≤ b) :
    rotateOne fs b = shifted fs b.toNat 0 :=
  (steps_run fs h).2

theorem C16_rotate_keeps_newest_pointwise (fs : FS) (b : Int) (h : 1 ≤ b) (i : Nat) :
    rotateOne fs b i =
      if i = 0 then none else if i ≤ b.toNat then fs (i - 1) else fs i := by
  rw [C16_rotate_keeps_newest fs b h]
  rcases Nat.eq_zero_or_pos i with rfl | h₀
  · exact shifted_self (Nat.zero_le _)
  · refine Eq.trans ?_ (if_neg (Nat.ne_of_gt h₀)).symm
    by_cases h₁ : i ≤ b.toNat
    · exact (shifted_of_mid h₀ h₁).trans (if_pos h₁).symm
    · exact (shifted_of_gt 0 (Nat.not_le.mp h₁)).trans (if_neg h₁).symm

/-- the return value: `True` iff `path` existed. -/
theorem C16_rotate_returns (fs : FS) (b : Int) (h : 1 ≤ b) : rotated fs b = existsAt fs 0 := by
  have hn : 1 ≤ b.toNat := Int.lt_toNat.mpr h
  refine (if_neg (Int.not_lt.mpr h)).trans ?_
  rw [(preSteps_run fs b.toNat hn).2]
  exact congrArg Option.isSome (shifted_of_lt Nat.zero_lt_one hn)

/-- EVERY crash prefix of the step list leaves the initial state or one of the intermediate
states "generations m … N-1 moved up by one, slot m vacated". -/
theorem C16_rotate_crash_legal (fs : FS) (b : Int) (j : Nat) :
    crashState fs b j = fs ∨ ∃ m, m ≤ b.toNat ∧ crashState fs b j = shifted fs b.toNat m :=
  allPre_take _ fs j (steps_allPre fs b)

/-- … age order by index is preserved (gaps allowed): there is a strictly monotone placement
`pos` (each generation stays or moves up by one) under which the crashed state shows the old
contents. -/
theorem C16_rotate_crash_order (fs : FS) (b : Int) (j : Nat) :
    ∃ pos : Nat → Nat,
      (∀ i, i ≠ b.toNat → crashState fs b j (pos i) = fs i) ∧
      (∀ i i', i < i' → i ≠ b.toNat → i' ≠ b.toNat → pos i < pos i') ∧
      (∀ i, pos i = i ∨ pos i = i + 1) := by
  rcases C16_rotate_crash_legal fs b j with h | ⟨m, hm, h⟩
  · exact ⟨id, fun i _ => by rw [h]; rfl, fun _ _ hlt _ _ => hlt, fun _ => Or.inl rfl⟩
  · exact ⟨posAfter b.toNat m, fun i hi => by rw [h]; exact shifted_pos hm hi,
      fun _ _ hlt _ hi' => posAfter_strictMono m hlt hi', posAfter_eq _ m⟩

/-- … hence for every crash point nothing but the oldest generation `path.N` is lost: every
other content is still there, at its index or one above. -/
theorem C16_rotate_crash_nothing_lost (fs : FS) (b : Int) (j i c : Nat)
    (hi : i ≠ b.toNat) (hc : fs i = some c) :
    crashState fs b j i = some c ∨ crashState fs b j (i + 1) = some c := by
  obtain ⟨pos, h, -, hpos⟩ := C16_rotate_crash_order fs b j
  have h := (h i hi).trans hc
  rcases hpos i with e | e
  · rw [e] at h; exact Or.inl h
  · rw [e] at h; exact Or.inr h

/-- … and nothing is invented or duplicated from the lost generation: whatever a crashed state
holds at index `i` was held before at `i` or `i-1`, by a generation other than `path.N`
(or the state is untouched). -/
theorem C16_rotate_crash_no_junk (fs : FS) (b : Int) (j i c : Nat)
    (h : crashState fs b j i = some c) :
    ∃ i', fs i' = some c ∧ (i = i' ∨ i = i' + 1) := by
  rcases C16_rotate_crash_legal fs b j with e | ⟨m, hm, e⟩
  · exact ⟨i, by rw [← e]; exact h, Or.inl rfl⟩
  · rw [e] at h
    obtain ⟨i', _, h2, h3⟩ := shifted_origin hm h
    exact ⟨i', h2, h3⟩

/-- The executable monitors accept every crash state of the model (they demand no more than
the theorems give), for every window `hi`. -/
theorem C16_rotate_monitors_accept_model (fs : FS) (b : Int) (j hi : Nat) :
    legalStateB fs (crashState fs b j) b.toNat hi = true ∧
    nothingLostB fs (crashState fs b j) b.toNat hi = true := by
  constructor
  · refine legalStateB_iff.mpr ?_
    rcases C16_rotate_crash_legal fs b j with h | ⟨m, hm, h⟩
    · exact Or.inl fun i _ => congrFun h i
    · exact Or.inr ⟨m, hm, fun i _ => congrFun h i⟩
  · refine nothingLostB_iff.mpr fun i _ => ?_
    by_cases hn : i = b.toNat
    · exact Or.inl (Or.inl (Or.inl hn))
    · cases hc : fs i with
      | none => exact Or.inl (Or.inl (Or.inr rfl))
      | some c =>
        rcases C16_rotate_crash_nothing_lost fs b j i c hn hc with h | h
        · exact Or.inl (Or.inr h)
        · exact Or.inr h

/-- … and a state the legality monitor accepts shows, inside the window, the initial state or a
`shifted` state — so the monitor is exactly the theorem's disjunction, windowed. -/
theorem C16_rotate_legal_monitor_sound (before after : FS) (n hi : Nat)
    (h : legalStateB before after n hi = true) :
    (∀ i < hi + 2, after i = before i) ∨ ∃ m ≤ n, ∀ i < hi + 2, after i = shifted before n m i :=
  legalStateB_iff.mp h

/-! ### transient and persistent rename faults -/

/-- A rename attempt that fails and is retried is modelled as leaving the state as it was
(`execRetried`): with any number of failed attempts before each step the rotation ends in the same
state (so all the theorems above apply). -/
theorem C16_rotate_transient_faults (fs : FS) (l : List (Step × Nat)) :
    execRetried fs l = exec fs (l.map (·.1)) := by
  induction l generalizing fs with
  | nil => rfl
  | cons a l ih =>
    have hk : ∀ k, Nat.repeat id k fs = fs := fun k => by
      induction k with
      | zero => rfl
      | succ n ihn => exact ihn
    show execRetried (apply (Nat.repeat id a.2 fs) a.1) l = exec (apply fs a.1) (l.map (·.1))
    rw [hk, ih]

/-- the errno values `atomic_replace` retries are exactly the documented ones (table regenerated
from io/atomic.py: dropping one breaks this theorem), and `PermissionError` is retried. -/
theorem C16_rotate_retry_set :
    Clem.Gen.Logs.replaceRetryErrnos =
      [[69, 65, 67, 67, 69, 83],      -- EACCES
       [69, 66, 85, 83, 89],          -- EBUSY
       [69, 80, 69, 82, 77]] ∧        -- EPERM
    Clem.Gen.Logs.replaceRetriesPermissionError = true := ⟨rfl, rfl⟩

/-- **Persistent rename failure.**  When a rename of the cascade fails for good, the rotation stops
with the source generation in place (`failState` is the crash state before that step), so the
crash theorems apply: nothing but the oldest generation is lost — for every history and every
failing step … -/
theorem C16_rotate_persistent_failure_nothing_lost (fs : FS) (b : Int) (j i c : Nat)
    (hi : i ≠ b.toNat) (hc : fs i = some c) :
    failState fs b j i = some c ∨ failState fs b j (i + 1) = some c :=
  C16_rotate_crash_nothing_lost fs b j i c hi hc

/-- … and the state is the initial one or a legal intermediate state. -/
theorem C16_rotate_persistent_failure_legal (fs : FS) (b : Int) (j : Nat) :
    failState fs b j = fs ∨ ∃ m, m ≤ b.toNat ∧ failState fs b j = shifted fs b.toNat m :=
  C16_rotate_crash_legal fs b j

/-- `rotate_one` asks the rename helper to keep its source on failure at every call, and the
helper's clean-up unlink is guarded by that flag (tables regenerated from rotate_logs.py and
io/atomic.py). -/
theorem C16_rotate_keeps_source_on_failed_rename :
    Clem.Gen.Logs.rotateKeepsSourceOnFailure = true ∧
    Clem.Gen.Logs.replaceUnlinkGuardedByFlag = true := by decide

/-- generations `path`(100), `.1`(101), `.3`(103) — a gap at `.2` — and `.5`(105) beyond N = 3. -/
def demoFS : FS := fun i =>
  if i = 0 then some 100 else if i = 1 then some 101 else if i = 3 then some 103
  else if i = 5 then some 105 else none

/-- Regression witness: a helper that unlinks its source on failure (the behaviour before the
fix) loses generation `.1` (content 101, not the oldest) when `.1 → .2` fails for good, and the
monitor `nothingLostB` rejects that state. -/
theorem C16_rotate_unlink_source_witness :
    steps demoFS 3 = [.rm 3, .mv 1 2, .mv 0 1] ∧
    (List.range 7).map (unlinkSourceState demoFS 3 1) = [some 100, none, none, none, none, some 105, none] ∧
    nothingLostB demoFS (unlinkSourceState demoFS 3 1) 3 6 = false ∧
    nothingLostB demoFS (failState demoFS 3 1) 3 6 = true := by decide +kernel

/-! ### non-vacuity and concrete histories -/

example : steps demoFS 3 = [.rm 3, .mv 1 2, .mv 0 1] := by decide +kernel
example : (List.range 7).map (rotateOne demoFS 3) =
    [none, some 100, some 101, none, none, some 105, none] := by decide +kernel
example : rotated demoFS 3 = true := by decide +kernel
/-- crash after the removal and the first move: 101 sits at `.2`, nothing else changed. -/
example : (List.range 7).map (crashState demoFS 3 2) =
    [some 100, none, some 101, none, none, some 105, none] := by decide +kernel
/-- the oldest generation really is lost (the exception in the statement is needed). -/
example : ∀ i < 8, rotateOne demoFS 3 i ≠ some 103 := by decide +kernel
/-- without the main file the cascade still happens and `False` is returned (as coded). -/
example : rotated (fun i => if i = 1 then some 7 else none) 2 = false ∧
    steps (fun i => if i = 1 then some 7 else none) 2 = [.mv 1 2] := by decide +kernel
example : rotateOne demoFS 0 = demoFS := (C16_rotate_noop demoFS 0 (by decide)).1
/-- the monitors accept every crash state of the demo history. -/
example : (List.range 5).all (fun j =>
    legalStateB demoFS (crashState demoFS 3 j) 3 6 && nothingLostB demoFS (crashState demoFS 3 j) 3 6) = true := by
  decide +kernel

end Clem.Props.C16
