import Clem.Proofs.Par
import Clem.Proofs.ParT1
import Clem.Proofs.ParT2
import Clem.Proofs.ParT2Walk
import Clem.Proofs.ParT2Dedup

/-!
# C09 — Stage-level parallelism is indistinguishable from sequential execution

Property theorems only (helper lemmas live in `Clem/Proofs/*`).  Every theorem is about the
executable definitions in `Clem/Model/Par*.lean` that the driver runs against the implementation.
All statements are unbounded: any number of tasks, any keys, any completion order, any worker count.
-/

namespace Clem.Par

open Clem.Py

variable {K E R A : Type}

/-- **Master equation.** For every completion order `π` under which every future completes, every
worker count, every order key and every pure merge function, `run_parallel` returns the
schedule-free reference value `spec`. -/
theorem C09_Par_eq_spec (kle : K → K → Bool) (merge : List (K × R) → A) (w : Int)
    (tasks : List (K × Except E R)) (π : List Nat) (hc : Covers tasks.length π) :
    runParallel kle merge w tasks π = spec kle merge w tasks := by
  rw [spec_eq]
  by_cases hw : w ≤ 1
  · rw [runParallel_seq kle merge w hw, if_pos hw]
  · rw [if_neg hw]
    unfold runParallel
    by_cases h0 : tasks.length = 0
    · rw [if_pos h0, List.eq_nil_of_length_eq_zero h0]; rfl
    · -- the collection loop has read every task's own outcome; on lists in submit order the index
      -- tie-break of `(order_key, idx)` gives the stable sort by `order_key`
      have hp := enumerate_pairwise 0 tasks (K := K) (X := Except E R)
      rw [if_neg h0, if_neg hw, ← strip_err_enumerate 0 tasks, ← strip_ok_enumerate 0 tasks,
        collect_eq hp π (idx_mem_of_covers hc) _ (List.Subset.refl _)]
      dsimp only
      rw [isort_leKI_eq_leK kle _ (pairwise_idx_filterMap (f := okItem) okItem_idx hp),
        isort_leKI_eq_leK kle _ (pairwise_idx_filterMap (f := errItem) errItem_idx hp),
        strip_isort, strip_isort]
      cases (enumerate 0 tasks).filterMap errItem <;> rfl

/-- `Par_schedule_independent`: the observable result does not depend on the completion order. -/
theorem C09_Par_schedule_independent (kle : K → K → Bool) (merge : List (K × R) → A) (w : Int)
    (tasks : List (K × Except E R)) (π π' : List Nat)
    (hc : Covers tasks.length π) (hc' : Covers tasks.length π') :
    runParallel kle merge w tasks π = runParallel kle merge w tasks π' := by
  rw [C09_Par_eq_spec kle merge w tasks π hc, C09_Par_eq_spec kle merge w tasks π' hc']

/-- `Par_merge_sorted`: when no task fails the result is `merge` applied to **all** `(key, result)`
pairs, stably sorted by `order_key` (ties keep submit order) — for every schedule and worker count. -/
theorem C09_Par_merge_sorted (kle : K → K → Bool) (merge : List (K × R) → A) (w : Int)
    (tasks : List (K × Except E R)) (π : List Nat) (hc : Covers tasks.length π)
    (hok : failPairs tasks = []) :
    runParallel kle merge w tasks π = .ok (merge (sortPairs kle (okPairs tasks))) := by
  rw [C09_Par_eq_spec kle merge w tasks π hc, spec_eq, plainLoop, hok]
  exact ite_self _

/-- what is handed to `merge` is sorted by the order key and is a permutation of all results. -/
theorem C09_Par_merge_input_sorted (kle : K → K → Bool)
    (total : ∀ a b, kle a b = true ∨ kle b a = true)
    (trans : ∀ a b c, kle a b = true → kle b c = true → kle a c = true)
    (tasks : List (K × Except E R)) :
    (sortPairs kle (okPairs tasks)).Pairwise (fun p q => kle p.1 q.1 = true)
    ∧ (sortPairs kle (okPairs tasks)).Perm (okPairs tasks) :=
  ⟨isort_pairwise _ (fun a b => total a.1 b.1) (fun a b c => trans a.1 b.1 c.1) _,
   isort_perm _ _⟩

/-- `Par_one_worker_is_loop`: with `max_workers ≤ 1` the helper is the plain loop. -/
theorem C09_Par_one_worker_is_loop (kle : K → K → Bool) (merge : List (K × R) → A) (w : Int)
    (hw : w ≤ 1) (tasks : List (K × Except E R)) (π : List Nat) :
    runParallel kle merge w tasks π = plainLoop kle merge tasks :=
  runParallel_seq kle merge w hw tasks π

/-- … and when no task fails, every worker count and every schedule give the plain loop's value. -/
theorem C09_Par_workers_irrelevant (kle : K → K → Bool) (merge : List (K × R) → A) (w : Int)
    (tasks : List (K × Except E R)) (π : List Nat) (hc : Covers tasks.length π)
    (hok : failPairs tasks = []) :
    runParallel kle merge w tasks π = plainLoop kle merge tasks := by
  rw [C09_Par_merge_sorted kle merge w tasks π hc hok]
  simp [plainLoop, hok]

/-- `Par_errors`: more than one worker and at least one failing task ⇒ `ParallelError` carrying
**every** failure, stably sorted by `order_key` (ties by submit index); the result is not an
`Out.ok`, i.e. `merge` is not called on partial results. -/
theorem C09_Par_errors (kle : K → K → Bool) (merge : List (K × R) → A) (w : Int) (hw : 1 < w)
    (tasks : List (K × Except E R)) (π : List Nat) (hc : Covers tasks.length π)
    (hfail : failPairs tasks ≠ []) :
    runParallel kle merge w tasks π = .parErr (sortPairs kle (failPairs tasks))
    ∧ (sortPairs kle (failPairs tasks)).Perm (failPairs tasks) := by
  refine ⟨?_, isort_perm _ _⟩
  rw [C09_Par_eq_spec kle merge w tasks π hc, spec_eq, if_neg (Int.not_le.mpr hw),
    if_neg (by rwa [List.isEmpty_iff])]

/-- `Par_one_worker_first_error`: with `max_workers ≤ 1` only the first failure is reported (later
tasks are not run) — this is what "identical to a plain loop" means on failure. -/
theorem C09_Par_one_worker_first_error (kle : K → K → Bool) (merge : List (K × R) → A) (w : Int)
    (hw : w ≤ 1) (tasks : List (K × Except E R)) (π : List Nat) (f : K × E) (fs : List (K × E))
    (hfail : failPairs tasks = f :: fs) :
    runParallel kle merge w tasks π = .parErr [f] := by
  rw [C09_Par_one_worker_is_loop kle merge w hw tasks π]
  simp [plainLoop, hfail]

/-! non-vacuity: four tasks with duplicate order keys under a reversed or shuffled completion order —
no failure; two failures with more than one worker; the same tasks with one worker (first failure only) -/
example : runParallel (K := Nat) (E := Nat) (R := Nat) (fun a b => decide (a ≤ b)) id 4
    [(2, .ok 20), (1, .ok 10), (2, .ok 21), (1, .ok 11)] [3, 2, 1, 0]
    = .ok [(1, 10), (1, 11), (2, 20), (2, 21)] := by decide +kernel
example : runParallel (K := Nat) (E := Nat) (R := Nat) (fun a b => decide (a ≤ b)) id 4
    [(2, .error 7), (1, .ok 10), (1, .error 8), (0, .ok 3)] [2, 0, 3, 1]
    = .parErr [(1, 8), (2, 7)] := by decide +kernel
example : runParallel (K := Nat) (E := Nat) (R := Nat) (fun a b => decide (a ≤ b)) id 1
    [(2, .error 7), (1, .ok 10), (1, .error 8), (0, .ok 3)] []
    = .parErr [(2, 7)] := by decide +kernel
example : Covers 4 [2, 0, 3, 1] := by unfold Covers; decide +kernel

end Clem.Par

namespace Clem.ParT1

open Clem.Par Clem.Py

/-- `T1_fanout_eq_seq`: with a pure per-graph function `g`, the parallel branch of `t1_propagate`
returns exactly the deltas (same order), all summed counters and `max_delta` of the sequential loop,
for every list of active graphs (repeated gids included), every worker count and every completion
order. -/
theorem C09_T1_fanout_eq_seq {α D G E : Type} (gt : α → α → Bool) (zero : α) (gate : Bool)
    (name : G → List Nat) (g : G → List D × GM α) (active : List G) (w : Int) (π : List Nat)
    (hc : Covers active.length π) :
    t1Par (E := E) gt zero gate name (fun x => .ok (g x)) active w π
      = .ok (t1Seq gt zero gate g active) := by
  unfold t1Par
  rw [C09_Par_merge_sorted keyLe _ w _ π (by rw [length_tasksFrom]; exact hc)
        (failPairs_tasksFrom name g 0 active)]
  rw [sortPairs_okPairs_tasksFrom]
  exact congrArg Out.ok (foldl_okPairs_tasksFrom gt gate name g 0 active (init zero))

/-- when some graph fails, the fan-out (more than one worker) reports every failing graph, in
`active_graphs` order, and produces no partial aggregate. -/
theorem C09_T1_fanout_errors {α D G E : Type} (gt : α → α → Bool) (zero : α) (gate : Bool)
    (name : G → List Nat) (g : G → Except E (List D × GM α)) (active : List G) (w : Int) (hw : 1 < w)
    (π : List Nat) (hc : Covers active.length π)
    (hfail : failPairs (tasksFrom name g 0 active) ≠ []) :
    t1Par gt zero gate name g active w π
      = .parErr (sortPairs keyLe (failPairs (tasksFrom name g 0 active))) :=
  (C09_Par_errors keyLe _ w hw _ π (by rw [length_tasksFrom]; exact hc) hfail).1

/-! non-vacuity: two graphs (the second one twice), reversed completion order -/
example : t1Par (α := Nat) (D := Nat) (G := Nat) (E := Nat) (fun a b => decide (a > b)) 0 true
    (fun n => [n]) (fun n => .ok ([n, n + 1], ⟨1, 2, 3, 0, 0, 0, n, 0, 1, 1, 0, 0, 0, 0⟩))
    [5, 7, 7] 8 [2, 1, 0]
    = .ok ⟨[5, 6, 7, 8, 7, 8], 3, 6, 9, 0, 0, 0, 7, 0, 3, 3, 0, 0, 0, 0⟩ := by decide +kernel

end Clem.ParT1

namespace Clem.ParT2

open Clem.Py

/-- `Shards_partition`: the shard views of `_iter_shards_for_t2` are a contiguous, order-preserving
partition of the episode list (their concatenation *is* the list), for every `suggested`;
no shard is empty unless the index is. -/
theorem C09_Shards_partition {ε : Type} (eps : List ε) (suggested : Option Int) :
    (iterShards eps suggested).flatten = eps
    ∧ (eps ≠ [] → ∀ sh ∈ iterShards eps suggested, sh ≠ []) := by
  rcases iterShards_cases eps suggested with h | ⟨size, hs, h⟩ <;> rw [h]
  · exact ⟨List.flatten_singleton, fun hne sh hsh => List.mem_singleton.mp hsh ▸ hne⟩
  · exact ⟨chunks_flatten _ hs _ _ (Nat.le_refl _), fun _ sh hsh => chunks_nonempty _ hs _ _ sh hsh⟩

/-- the Boolean monitor the driver evaluates on the implementation's shards holds of the model. -/
theorem C09_Shards_partition_monitor {ε : Type} [DecidableEq ε] (eps : List ε) (suggested : Option Int) :
    partitionB eps (iterShards eps suggested) = true := by
  obtain ⟨h1, h2⟩ := C09_Shards_partition eps suggested
  rw [partitionB, h1, decide_eq_true rfl, Bool.true_and, Bool.or_eq_true, List.all_eq_true]
  by_cases he : eps = []
  · exact Or.inl (he ▸ rfl)
  · refine Or.inr fun sh hsh => ?_
    cases sh with
    | nil => exact absurd rfl (h2 he _ hsh)
    | cons _ _ => rfl

/-- `Merge_topk`: for any one linear ranking key, the top-k of the union of the shards is obtained
from the per-shard top-k lists — unbounded in the number and size of shards. -/
theorem C09_Merge_topk {X : Type} (le : X → X → Bool)
    (total : ∀ a b, le a b = true ∨ le b a = true)
    (trans : ∀ a b c, le a b = true → le b c = true → le a c = true)
    (antisymm : ∀ a b, le a b = true → le b a = true → a = b)
    (k : Nat) (shards : List (List X)) :
    topk le k (shards.map (topk le k)).flatten = topk le k shards.flatten :=
  topk_flatten_map le total trans antisymm k shards

/-- **T2 fan-out = sequential walk, any number of tiers.**  `candSh sh t` are the hits of tier `t`
among the episodes of shard `sh` (after the per-episode owner / recency / quarter / threshold
filters), so the whole index's candidates for `t` are the concatenation over the shards
(`C09_Shards_partition`).  With one linear ranking key on both sides and unique episode ids, the
cross-shard merge over the per-shard top-k dicts returns exactly the retrieved list **and** the tier
sequence of the sequential tier walk (dedupe across tiers, stop at `k_retrieval`), for every tier
list, every number of shards and every `k ≥ 1`. -/
theorem C09_T2_walk_par_eq_seq {α σ : Type} (le : Hit α → Hit α → Bool)
    (total : ∀ a b, le a b = true ∨ le b a = true)
    (trans : ∀ a b c, le a b = true → le b c = true → le a c = true)
    (antisymm : ∀ a b, le a b = true → le b a = true → a = b)
    (k : Nat) (hk : 1 ≤ k) (tiers : List (List Nat)) (shards : List σ)
    (candSh : σ → List Nat → List (Hit α))
    (hnd : ∀ t, ((shards.map (fun sh => candSh sh t)).flatten.map Hit.id).Nodup) :
    mergeTierHits le (k : Int) (shards.map (shardDict le k tiers candSh)) tiers
      = seqWalk (k : Int) (fun t => topk le k (shards.map (fun sh => candSh sh t)).flatten)
          tiers [] [] [] := by
  -- with unique ids `rankU` is `topk`, on every shard and on the whole index
  have hd : shards.map (shardDict le k tiers candSh) = shards.map (shardDictU le k tiers candSh) :=
    List.map_congr_left fun sh hsh => List.map_congr_left fun t _ => by
      rw [rankU_of_nodup le k ((hnd t).sublist
        ((List.sublist_flatten_of_mem (List.mem_map_of_mem hsh)).map Hit.id))]
  have hr : (fun t => topk le k (shards.map (fun sh => candSh sh t)).flatten)
      = fun t => rankU le k (shards.map (fun sh => candSh sh t)).flatten :=
    funext fun t => (rankU_of_nodup le k (hnd t)).symm
  rw [hd, hr]
  exact walkU_par_eq_seq le total trans antisymm k tiers shards candSh tiers (fun _ h => h) [] [] [] hk
    (Nat.le_refl _)

/-- One tier, episode ids unique, **the same key** used by the shards and by the merge: the
cross-shard merge (`merge_tier_hits_across_shards_dict` on the per-shard top-k lists) returns exactly
the sequential ranking of the whole index, and the same tier sequence. -/
theorem C09_T2_single_tier_par_eq_seq {α : Type} (le : Hit α → Hit α → Bool)
    (total : ∀ a b, le a b = true ∨ le b a = true)
    (trans : ∀ a b c, le a b = true → le b c = true → le a c = true)
    (antisymm : ∀ a b, le a b = true → le b a = true → a = b)
    (k : Nat) (hk : 1 ≤ k) (t : List Nat) (shards : List (List (Hit α)))
    (hnd : (shards.flatten.map Hit.id).Nodup) :
    mergeTierHits le (k : Int) (shards.map (fun sh => [(t, topk le k sh)])) [t]
      = (topk le k shards.flatten, [t]) := by
  -- the tier walk over `[t]`, every shard being its own candidate list
  have hnd' : ((shards.map (fun sh => sh)).flatten.map Hit.id).Nodup := by rwa [List.map_id']
  have h := C09_T2_walk_par_eq_seq le total trans antisymm k hk [t] shards (fun sh _ => sh) (fun _ => hnd')
  rw [List.map_id'] at h
  refine h.trans (seqWalk_single k hk _ t ?_ (List.length_take_le _ _))
  exact (((isort_perm le _).map Hit.id).nodup_iff.mpr hnd).sublist ((List.take_sublist k _).map Hit.id)

/-- `Merge_topk` with re-added ids: `_rank_by_cosine` keeps one entry per id before the cut
(`rankU`); the top-k-unique of the union is obtained from the per-shard top-k-unique lists. -/
theorem C09_Merge_topk_unique {α : Type} (le : Hit α → Hit α → Bool)
    (total : ∀ a b, le a b = true ∨ le b a = true)
    (trans : ∀ a b c, le a b = true → le b c = true → le a c = true)
    (antisymm : ∀ a b, le a b = true → le b a = true → a = b)
    (k : Nat) (shards : List (List (Hit α))) :
    rankU le k (shards.map (rankU le k)).flatten = rankU le k shards.flatten :=
  rankU_flatten_map le total trans antisymm k shards

/-- **T2 fan-out = sequential walk, full strength** (after the three repairs): any tier list, any
shards, any `k ≥ 1`, episode ids may repeat (re-added episodes).  Both sides rank with
`_rank_by_cosine` = sort, one entry per id, cut to `k` (`rankU`). -/
theorem C09_T2_walkU_par_eq_seq {α σ : Type} (le : Hit α → Hit α → Bool)
    (total : ∀ a b, le a b = true ∨ le b a = true)
    (trans : ∀ a b c, le a b = true → le b c = true → le a c = true)
    (antisymm : ∀ a b, le a b = true → le b a = true → a = b)
    (k : Nat) (hk : 1 ≤ k) (tiers : List (List Nat)) (shards : List σ)
    (candSh : σ → List Nat → List (Hit α)) :
    mergeTierHits le (k : Int) (shards.map (shardDictU le k tiers candSh)) tiers
      = seqWalk (k : Int) (fun t => rankU le k (shards.map (fun sh => candSh sh t)).flatten)
          tiers [] [] [] :=
  walkU_par_eq_seq le total trans antisymm k tiers shards candSh tiers (fun _ h => h) [] [] []
    hk (Nat.le_refl _)

/-- `T2_par_eq_seq` (full strength; formerly `T2_par_eq_seq_partial`).  The shards and the
sequential walk rank by the raw score (`rawLe`); the cross-shard merge ranks by
`(-_qscore, -raw, id)` (`hitLeQR`).  For every quantiser `q` that is monotone in the score (rounding
is), the two keys are the same order, so the fan-out equals the sequential tier walk for every tier
list, shard count and `k ≥ 1` — without the "no two scores inside one quantum" guard and without
the unique-id assumption. -/
theorem C09_T2_par_eq_seq {α σ : Type} (q : α → Int) (lt : α → α → Bool)
    (asym : ∀ x y, lt x y = true → lt y x = false)
    (qmono : ∀ x y, lt x y = false → q y ≤ q x)
    (total : ∀ a b, rawLe lt a b = true ∨ rawLe lt b a = true)
    (trans : ∀ a b c, rawLe lt a b = true → rawLe lt b c = true → rawLe lt a c = true)
    (antisymm : ∀ a b, rawLe lt a b = true → rawLe lt b a = true → a = b)
    (k : Nat) (hk : 1 ≤ k) (tiers : List (List Nat)) (shards : List σ)
    (candSh : σ → List Nat → List (Hit α)) :
    mergeTierHits (hitLeQR q lt) (k : Int) (shards.map (shardDictU (rawLe lt) k tiers candSh)) tiers
      = seqWalk (k : Int) (fun t => rankU (rawLe lt) k (shards.map (fun sh => candSh sh t)).flatten)
          tiers [] [] [] := by
  have hkey : hitLeQR q lt = rawLe lt := by
    funext a b; exact hitLeQR_eq_rawLe q lt asym qmono a b
  rw [hkey]
  exact C09_T2_walkU_par_eq_seq (rawLe lt) total trans antisymm k hk tiers shards candSh

/-- the repaired key really is the raw ranking key (monotone quantiser). -/
theorem C09_Merge_key_is_rank_key {α : Type} (q : α → Int) (lt : α → α → Bool)
    (asym : ∀ x y, lt x y = true → lt y x = false)
    (qmono : ∀ x y, lt x y = false → q y ≤ q x) (a b : Hit α) :
    hitLeQR q lt a b = rawLe lt a b := hitLeQR_eq_rawLe q lt asym qmono a b

/-- `Merge_qscore_tie_witness` (kept as the regression witness for the *old* merge key `hitLe q` =
`(-_qscore, id)`, repaired by fix C09_qscore-tie; with `hitLeQR` the same input agrees, see the example below): two shards holding `"b"`
(score 1.25 quanta) and `"a"` (1.00 quanta); both round to quantum 1, so the merge orders them by
id and keeps `"a"` at `k = 1`, while the sequential ranking keeps `"b"` (higher raw score). -/
theorem C09_Merge_qscore_tie_witness :
    ∃ (q : Int → Int) (k : Nat) (t : List Nat) (shards : List (List (Hit Int))),
      1 ≤ k ∧ (shards.flatten.map Hit.id).Nodup ∧
      mergeTierHits (hitLe q) (k : Int)
          (shards.map (fun sh => [(t, topk (rawLe (fun a b : Int => decide (a < b))) k sh)])) [t]
        ≠ (topk (rawLe (fun a b : Int => decide (a < b))) k shards.flatten, [t]) :=
  ⟨fun s => roundHalfEven s (-2), 1, [101], [[⟨[98], 5⟩], [⟨[97], 4⟩]], by decide +kernel, by decide +kernel,
    by decide +kernel⟩

/-- the witness input under the repaired key: merge = sequential. -/
example :
    mergeTierHits (hitLeQR (fun s : Int => roundHalfEven s (-2)) (fun a b : Int => decide (a < b))) (1 : Int)
        (([[⟨[98], 5⟩], [⟨[97], 4⟩]] : List (List (Hit Int))).map
          (fun sh => [([101], topk (rawLe (fun a b : Int => decide (a < b))) 1 sh)])) [[101]]
      = (topk (rawLe (fun a b : Int => decide (a < b))) 1 [⟨[98], 5⟩, ⟨[97], 4⟩], [[101]]) := by decide +kernel

/-- re-added id: the regression input of the former duplicate-id finding (two copies of id 1, k = 2). -/
example : mergeTierHits (hitLe (fun s : Int => s)) 2
      ([[⟨[1], 9⟩, ⟨[1], 8⟩], [⟨[2], 5⟩, ⟨[3], 4⟩]].map
        (shardDictU (hitLe (fun s : Int => s)) 2 [[10], [11]] (fun sh t => if t = [10] then sh.filter (fun h => h.score > 7) else sh)))
      [[10], [11]]
    = seqWalk 2 (fun t => rankU (hitLe (fun s : Int => s)) 2
        (if t = [10] then [⟨[1], 9⟩, ⟨[1], 8⟩] else [⟨[1], 9⟩, ⟨[1], 8⟩, ⟨[2], 5⟩, ⟨[3], 4⟩])) [[10], [11]] [] [] []
    ∧ (seqWalk 2 (fun t => rankU (hitLe (fun s : Int => s)) 2
        (if t = [10] then [⟨[1], 9⟩, ⟨[1], 8⟩] else [⟨[1], 9⟩, ⟨[1], 8⟩, ⟨[2], 5⟩, ⟨[3], 4⟩])) [[10], [11]] [] [] []).1
      = [⟨[1], 9⟩, ⟨[2], 5⟩] := by decide +kernel

/-! non-vacuity -/
example : iterShards [1, 2, 3, 4, 5, 6, 7] (some 3) = [[1, 2, 3], [4, 5, 6], [7]] := by decide +kernel
example : topk (fun a b : Nat => decide (a ≤ b)) 2 (([[5, 1, 9], [4, 0], [7]].map
    (topk (fun a b : Nat => decide (a ≤ b)) 2)).flatten) = [0, 1] := by decide +kernel
example : (∀ a b : Nat, decide (a ≤ b) = true ∨ decide (b ≤ a) = true)
    ∧ (∀ a b c : Nat, decide (a ≤ b) = true → decide (b ≤ c) = true → decide (a ≤ c) = true)
    ∧ (∀ a b : Nat, decide (a ≤ b) = true → decide (b ≤ a) = true → a = b) :=
  ⟨fun a b => (Nat.le_total a b).imp decide_eq_true decide_eq_true,
   fun _ _ _ h1 h2 => decide_eq_true (Nat.le_trans (of_decide_eq_true h1) (of_decide_eq_true h2)),
   fun _ _ h1 h2 => Nat.le_antisymm (of_decide_eq_true h1) (of_decide_eq_true h2)⟩
example : mergeTierHits (hitLe (fun s : Int => s)) 2
      ([[⟨[1], 9⟩, ⟨[2], 3⟩], [⟨[3], 7⟩], [⟨[4], 8⟩]].map
        (shardDict (hitLe (fun s : Int => s)) 2 [[10], [11]] (fun sh t => if t = [10] then sh.filter (fun h => h.score > 5) else sh)))
      [[10], [11]]
    = ([⟨[1], 9⟩, ⟨[4], 8⟩], [[10]]) := by decide +kernel
example : [roundHalfEven 1 (-1), roundHalfEven 3 (-1), roundHalfEven 5 (-1), roundHalfEven (-1) (-1),
    roundHalfEven (-3) (-1), roundHalfEven 5 (-2), roundHalfEven 7 (-2), roundHalfEven 3 2]
    = [0, 2, 2, 0, -2, 1, 2, 12] := by decide +kernel

end Clem.ParT2
