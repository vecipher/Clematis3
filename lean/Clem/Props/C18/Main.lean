import Clem.Proofs.GelObsSpec
import Mathlib.Algebra.Order.Field.Rat

/-!
# C18 — GEL edge weights stay bounded, decay monotonically, keys canonical

The property theorems (helper lemmas live in `Clem/Proofs/Gel*.lean`).  Every theorem is about
the executable definitions of `Clem/Model/Gel.lean` — the ones the driver runs at `Float` against
`clematis/engine/gel.py` — instantiated at an arbitrary linearly ordered field `α`
(`Clem/Proofs/GelNum.lean`).  `pw` is Python's `**`; the only fact used about it is
`PowLaw pw : ∀ x ≥ 0, 0 ≤ pw ½ x ≤ 1`.
-/

namespace Clem.Gel
open Clem.Py

set_option linter.unusedSectionVars false
variable {α : Type} [Field α] [LinearOrder α] [IsStrictOrderedRing α]

/-- Every record an observation creates or rewrites has its weight inside
`[clamp_min, clamp_max]` (both update modes; any history before it). -/
theorem C18_observe_updated_in_bounds (c : Cfg α) (s : State α) (items : List (Str × α))
    (turn : Option Int) (h : c.cmin ≤ c.cmax) :
    ∀ e ∈ edgesOf (observe c s items turn).1,
      e ∈ edgesOf s ∨ (c.cmin ≤ e.w ∧ e.w ≤ c.cmax) := by
  intro e he
  rw [observe_edges] at he
  exact (mem_observeEdges he).imp_right fun ⟨_, _, _, e0, h0⟩ => h0 ▸ updW_bounds c e0.w h

/-- Pair cap / top-k / threshold: `pairs_updated = min(pair_cap, C(k_used, 2))`, `k_used ≤ top_k`,
`k_used ≤ #{items with s ≥ θ}`, and every used item is one of the listed items with `s ≥ θ`. -/
theorem C18_observe_pair_cap (c : Cfg α) (s : State α) (items : List (Str × α)) (turn : Option Int)
    (hen : c.enabled = true) :
    (observe c s items turn).2.pairsUpdated
        = min c.pairCap.toNat ((observe c s items turn).2.kUsed.choose 2) ∧
    (0 ≤ c.topK → (observe c s items turn).2.kUsed ≤ c.topK.toNat) ∧
    (observe c s items turn).2.kUsed ≤ (eligible c items).length ∧
    (observe c s items turn).2.kIn = items.length ∧
    (∀ x ∈ usedItems c items, x ∈ items ∧ c.threshold ≤ x.2) := by
  rw [observe_enabled c s items turn hen]
  exact ⟨obsPairs_length c items, (usedItems_length_le c items).2, (usedItems_length_le c items).1, rfl,
    usedItems_sub c items⟩

/-- An observation is insensitive to the order in which the items are listed. -/
theorem C18_observe_perm_invariant (c : Cfg α) (s : State α) {items items' : List (Str × α)}
    (turn : Option Int) (h : items.Perm items') :
    observe c s items turn = observe c s items' turn := by
  unfold observe obsPairs
  rw [usedItems_perm c h, h.length_eq]

/-- The whole relational specification of one observation (the `Bool` monitor the driver evaluates
on the implementation's before/after stores and metrics: `k_used ≤ top_k`, `k_used ≤ #eligible`,
`pairs_updated ≤ min(pair_cap, C(k_used, 2))`, no key disappears, every record that is new or differs
from before sits under the key of a pair of ids with score `≥ θ` and is in bounds, and there are at most
`pairs_updated` such records) holds of the model's `observe` in every state reachable from the empty
store.  `same` is the record equality used by the monitor (bit-level at `Float`). -/
theorem C18_observe_spec (same : Edge α → Edge α → Bool) (hsame : ∀ a b, same a b = true ↔ a = b)
    (c : Cfg α) (pw : α → α → α) (ops : List (Op α)) (items : List (Str × α)) (turn : Option Int)
    (hen : c.enabled = true) :
    obsSpecB same c items (edgesOf (run c pw none ops))
      (edgesOf (observe c (run c pw none ops) items turn).1)
      (observe c (run c pw none ops) items turn).2 = true :=
  obsSpec_holds same (fun a => (hsame a a).2 rfl) c _ items turn hen (canon_run c pw ops canon_none).2

/-- Hand-off clause (the `Bool` monitor `obsTopB`, evaluated by the driver on the real `run_turn`'s
before/after stores with ALL hits T2 returned as `items`): whatever order the items are listed in, every
record an observation creates or rewrites sits under the key of a pair of ids taken from the top-`k`
items by `(-score, id)` among the listed items with score `≥ θ` — in every reachable state. -/
theorem C18_observe_topk_by_score (same : Edge α → Edge α → Bool) (hsame : ∀ a b, same a b = true ↔ a = b)
    (c : Cfg α) (pw : α → α → α) (ops : List (Op α)) (items : List (Str × α)) (turn : Option Int) :
    obsTopB same c items (edgesOf (run c pw none ops))
      (edgesOf (observe c (run c pw none ops) items turn).1) = true :=
  obsTop_holds same (fun a => (hsame a a).2 rfl) c _ items turn (canon_run c pw ops canon_none).2

/-- A tick never increases a weight's magnitude: every edge after the tick is the image of an
edge before it (same key) whose magnitude was at least as large. -/
theorem C18_tick_shrinks (c : Cfg α) (pw : α → α → α) (hpw : PowLaw pw) (s : State α) (dt : Int)
    (turn : Option Int) :
    ∀ e' ∈ edgesOf (tick c pw s dt turn).1, ∃ e ∈ edgesOf s, e.key = e'.key ∧ |e'.w| ≤ |e.w| := by
  intro e' he'
  rcases edgesOf_step c pw s (.tick dt turn) with h | h <;>
    rw [show edgesOf (tick c pw s dt turn).1 = _ from h] at he'
  · exact ⟨e', he', rfl, le_refl _⟩
  · obtain ⟨e, he, rfl⟩ := mem_filterMap_tickEdge he'
    obtain ⟨h0, h1⟩ := decayFactor_unit c pw hpw dt
    exact ⟨e, he, rfl, by rw [decayEdge_w]; exact decay_abs_le h0 h1⟩

/-- A tick removes exactly the edges whose decayed magnitude is below the floor, keeps the others in
order, and reports the number of dropped edges. -/
theorem C18_tick_drops_exactly (c : Cfg α) (pw : α → α → α) (s : State α) (dt : Int)
    (turn : Option Int) (hen : c.enabled = true) :
    (edgesOf (tick c pw s dt turn).1).map Edge.key
        = ((edgesOf s).filter (fun e => !(below (decayFactor c pw dt) c.floor e))).map Edge.key ∧
    (tick c pw s dt turn).2.dropped = ((edgesOf s).filter (below (decayFactor c pw dt) c.floor)).length ∧
    (tick c pw s dt turn).2.dropped + (edgesOf (tick c pw s dt turn).1).length = (edgesOf s).length := by
  obtain ⟨he, ho⟩ := tick_enabled c pw s dt turn hen
  rw [he, ho, filterMap_tickEdge, List.map_map, List.length_map]
  exact ⟨rfl, rfl, length_filter_add_not _ _⟩

/-- The whole relational specification of a decay step (the `Bool` monitor the driver evaluates on
the implementation's before/after states) holds of the model's tick. -/
theorem C18_tick_spec (c : Cfg α) (pw : α → α → α) (hpw : PowLaw pw) (s : State α) (dt : Int)
    (turn : Option Int) (hen : c.enabled = true) :
    tickSpecB (decayFactor c pw dt) c.floor (edgesOf s) (edgesOf (tick c pw s dt turn).1)
      (tick c pw s dt turn).2 = true := by
  obtain ⟨h0, h1⟩ := decayFactor_unit c pw hpw dt
  obtain ⟨he, ho⟩ := tick_enabled c pw s dt turn hen
  rw [he, ho]
  exact tickSpec_holds _ _ h0 h1 turn _

/-- With `clamp_min ≤ 0 ≤ clamp_max` (what the repaired validator enforces), every history over
{observe, tick, merge, split, promotion} from the empty store keeps every weight in
`[clamp_min, clamp_max]`, provided promotions attach with a weight inside the clamp
(vacuous for observe/tick histories — see the corollary). -/
theorem C18_bounded_history (c : Cfg α) (pw : α → α → α) (hpw : PowLaw pw)
    (hlo : c.cmin ≤ 0) (hhi : 0 ≤ c.cmax) (ops : List (Op α))
    (hp : ∀ p, Op.promote p ∈ ops → c.cmin ≤ p.w ∧ p.w ≤ c.cmax) :
    boundedB c (edgesOf (run c pw none ops)) = true :=
  good_run c true pw hlo hhi hpw ops (fun p hm => .inr (hp p hm)) fun _ h => nomatch h

/-- The property's first clause: after any sequence of observations and ticks every edge weight
lies within the clamp bounds. -/
theorem C18_bounded_observe_tick_history (c : Cfg α) (pw : α → α → α) (hpw : PowLaw pw)
    (hlo : c.cmin ≤ 0) (hhi : 0 ≤ c.cmax) (ops : List (Op α))
    (hot : ∀ op ∈ ops, (∃ items turn, op = .observe items turn) ∨ (∃ dt turn, op = .tick dt turn)) :
    boundedB c (edgesOf (run c pw none ops)) = true := by
  apply C18_bounded_history c pw hpw hlo hhi ops
  intro p hp
  rcases hot _ hp with ⟨_, _, h⟩ | ⟨_, _, h⟩ <;> cases h

/-- Without any assumption on promotions: every co-activation edge (`rel = "coact"`) stays in
bounds over every history (promotion attaches with a weight clamped to `[-1, 1]`, not to the update
clamp, and marks the edge `rel = "concept"`). -/
theorem C18_bounded_coact_history (c : Cfg α) (pw : α → α → α) (hpw : PowLaw pw)
    (hlo : c.cmin ≤ 0) (hhi : 0 ≤ c.cmax) (ops : List (Op α)) :
    boundedCoactB c (edgesOf (run c pw none ops)) = true :=
  good_run c false pw hlo hhi hpw ops (fun _ _ => .inl rfl) fun _ h => nomatch h

/-- The graph rules of `configs/validate.py` **before** the fix 4d79a8c
(`clamp_min < clamp_max` only). -/
def ValidatorAcceptsOld (c : Cfg α) : Prop :=
  0 ≤ c.threshold ∧ c.threshold ≤ 1 ∧ 1 ≤ c.topK ∧ 0 ≤ c.pairCap ∧ 0 < c.alpha ∧ c.cmin < c.cmax ∧
  1 ≤ c.hl ∧ 0 ≤ c.floor ∧ c.floor ≤ c.cmax ∧ -1 ≤ c.attachW ∧ c.attachW ≤ 1 ∧ 1 ≤ c.topkLabel

/-- … and **with** the fix (`clamp_min ≤ 0 ≤ clamp_max` added). -/
def ValidatorAccepts (c : Cfg α) : Prop := ValidatorAcceptsOld c ∧ c.cmin ≤ 0 ∧ 0 ≤ c.cmax

/-- Full-strength statement for the repaired validator: all validator-accepted settings, all
observe/tick histories. -/
theorem C18_bounded_history_validated (c : Cfg α) (pw : α → α → α) (hpw : PowLaw pw)
    (hv : ValidatorAccepts c) (ops : List (Op α))
    (hot : ∀ op ∈ ops, (∃ items turn, op = .observe items turn) ∨ (∃ dt turn, op = .tick dt turn)) :
    boundedB c (edgesOf (run c pw none ops)) = true :=
  C18_bounded_observe_tick_history c pw hpw hv.2.1 hv.2.2 ops hot

/-- Counter-witness (DESIGN §5 row 12): settings the *unrepaired* validator accepts
(`clamp_min = 1/2 < clamp_max = 1`), a `pow` satisfying the law, one observation then one tick:
the weight `1/2 · 499/500` is below `clamp_min`.  So `clamp_min ≤ 0` cannot be dropped. -/
def witnessCfg : Cfg ℚ :=
  { enabled := true, threshold := 1/5, topK := 64, pairCap := 2048, proportional := false,
    alpha := 1/50, cmin := 1/2, cmax := 1, hl := 200, floor := 0,
    concatK := false, topkLabel := 3, attachW := 1/2 }
def witnessPow : ℚ → ℚ → ℚ := fun _ _ => 499/500
def witnessOps : List (Op ℚ) :=
  [.observe [([97], 9/10), ([98], 4/5)] (some 1), .tick 1 (some 1)]

private theorem witnessPow_law : PowLaw witnessPow := by
  intro x _; unfold witnessPow; decide +kernel

theorem C18_bounded_fails_positive_cmin :
    ValidatorAcceptsOld witnessCfg ∧ PowLaw witnessPow ∧
    (∀ op ∈ witnessOps, (∃ items turn, op = .observe items turn) ∨ (∃ dt turn, op = .tick dt turn)) ∧
    boundedB witnessCfg (edgesOf (run witnessCfg witnessPow none witnessOps)) = false := by
  refine ⟨by unfold ValidatorAcceptsOld; decide +kernel, witnessPow_law, ?_, by decide +kernel⟩
  · intro op hop
    simp only [witnessOps, List.mem_cons, List.not_mem_nil, or_false] at hop
    rcases hop with rfl | rfl
    · exact Or.inl ⟨_, _, rfl⟩
    · exact Or.inr ⟨_, _, rfl⟩

/-- Non-vacuity of the history theorems: the default settings over ℚ, a history with an
observation, a tick and an in-bounds promotion. -/
example : boundedB { witnessCfg with cmin := -1 }
    (edgesOf (run { witnessCfg with cmin := -1 } witnessPow none
      (witnessOps ++ [.promote ⟨[99, 58, 58, 97], [97], [[97], [98]], 1/2⟩]))) = true :=
  C18_bounded_history _ witnessPow witnessPow_law (by decide +kernel) (by decide +kernel) _ (by
    intro p hp
    rcases List.mem_append.1 hp with h | h
    · nomatch h
    · cases List.mem_singleton.1 h
      decide +kernel)

/-- `_edge_key` is symmetric. -/
theorem C18_edge_key_symmetric (a b : Str) : edgeKey a b = edgeKey b a := by
  unfold edgeKey
  by_cases hab : lexLe a b = true <;> by_cases hba : lexLe b a = true
  · cases lexLe_antisymm hab hba; rfl
  · rw [if_pos hab, if_neg hba]
  · rw [if_neg hab, if_pos hba]
  · exact absurd ((lexLe_total a b).resolve_left hab) hba

/-- `_edge_key a b` is `(src ++ "→" ++ dst, src, dst)` with `src ≤ dst` and `{src, dst} = {a, b}`. -/
theorem C18_edge_key_canonical (a b : Str) :
    lexLe (edgeKey a b).src (edgeKey a b).dst = true ∧
    (edgeKey a b).key = (edgeKey a b).src ++ arrow :: (edgeKey a b).dst ∧
    (((edgeKey a b).src = a ∧ (edgeKey a b).dst = b) ∨ ((edgeKey a b).src = b ∧ (edgeKey a b).dst = a)) :=
  edgeKey_canon a b

/-- Over every history from the empty store, every stored record sits under the canonical key of
its own endpoints (`key = src→dst`, `src ≤ dst`) and there is exactly one record per key — hence
one per unordered pair `{src, dst}`. -/
theorem C18_keys_canonical_history (c : Cfg α) (pw : α → α → α) (ops : List (Op α)) :
    canonB (edgesOf (run c pw none ops)) = true :=
  (canonB_iff _).2 (canon_run c pw ops canon_none)

/-- The key determines the unordered pair for ids that do not contain the separator `→`
(`_partial`: for arbitrary ids it does not — next theorem). -/
theorem C18_edge_key_injective_partial {a b a' b' : Str} (ha : arrow ∉ a) (hb : arrow ∉ b)
    (ha' : arrow ∉ a') (hb' : arrow ∉ b') (h : (edgeKey a b).key = (edgeKey a' b').key) :
    (a = a' ∧ b = b') ∨ (a = b' ∧ b = a') := by
  unfold edgeKey at h
  split at h <;> split at h
  · exact Or.inl (append_arrow_inj ha ha' h)
  · exact Or.inr (append_arrow_inj ha hb' h)
  · exact Or.inr (append_arrow_inj hb ha' h).symm
  · exact Or.inl (append_arrow_inj hb hb' h).symm

/-- Collision witness: the pairs `("a→b", "c")` and `("a", "b→c")` share the key `"a→b→c"`. -/
theorem C18_edge_key_collision :
    (edgeKey [97, arrow, 98] [99]).key = (edgeKey [97] [98, arrow, 99]).key ∧
    (edgeKey [97, arrow, 98] [99]).src ≠ (edgeKey [97] [98, arrow, 99]).src := by decide +kernel

-- an ordinary id meets the side condition of `C18_edge_key_injective_partial`
example : arrow ∉ ([97] : Str) := by decide

/-- `apply_merge` only appends its record to `meta.merges`. -/
theorem C18_merge_only_meta (c : Cfg α) (s : State α) (r : MergeRec α) (hen : c.enabled = true) :
    ∃ g', applyMerge c s r = some g' ∧ g'.nodes = (ensure s).nodes ∧ g'.edges = (ensure s).edges ∧
      g'.splits = (ensure s).splits ∧ g'.conceptCount = (ensure s).conceptCount ∧
      g'.edgesCount = (ensure s).edgesCount ∧ g'.merges = (ensure s).merges ++ [r] :=
  ⟨{ ensure s with merges := (ensure s).merges ++ [r] }, by simp [applyMerge, hen],
    rfl, rfl, rfl, rfl, rfl, rfl⟩

/-- `apply_split` only appends its record to `meta.splits`. -/
theorem C18_split_only_meta (c : Cfg α) (s : State α) (r : SplitRec) (hen : c.enabled = true) :
    ∃ g', applySplit c s r = some g' ∧ g'.nodes = (ensure s).nodes ∧ g'.edges = (ensure s).edges ∧
      g'.merges = (ensure s).merges ∧ g'.conceptCount = (ensure s).conceptCount ∧
      g'.edgesCount = (ensure s).edgesCount ∧ g'.splits = (ensure s).splits ++ [r] :=
  ⟨{ ensure s with splits := (ensure s).splits ++ [r] }, by simp [applySplit, hen],
    rfl, rfl, rfl, rfl, rfl, rfl⟩

/-- `apply_promotion` leaves merges/splits alone, appends at most its own concept node, and every
edge whose key is not one of its own `(concept, member)` pair keys is untouched (both directions);
its own edges end up `rel = "concept"` with the attach weight. -/
theorem C18_promotion_only_concept (c : Cfg α) (s : State α) (p : Promo α) (hen : c.enabled = true) :
    ∃ g', applyPromotion c s p = some g' ∧ g'.merges = (ensure s).merges ∧ g'.splits = (ensure s).splits ∧
      (g'.nodes = (ensure s).nodes ∨ g'.nodes = (ensure s).nodes ++ [⟨p.cid, p.label⟩]) ∧
      (∀ e, (∀ m ∈ p.members, e.key ≠ (edgeKey p.cid m).key) → (e ∈ g'.edges ↔ e ∈ (ensure s).edges)) ∧
      (∀ m ∈ p.members, ∃ e, findEdge (edgeKey p.cid m).key g'.edges = some e ∧ e.concept = true ∧ e.w = p.w) := by
  refine ⟨_, applyPromotion_enabled c s p hen, rfl, rfl, ?_, ?_, ?_⟩
  · dsimp only
    split <;> [exact .inl rfl; exact .inr rfl]
  · exact attach_foldl_mem_of_ne p p.members _
  · exact fun m hm => attach_foldl_attached p p.members _ m (.inl hm)

/-- Promotion is idempotent. -/
theorem C18_promotion_idempotent (c : Cfg α) (s : State α) (p : Promo α) :
    applyPromotion c (applyPromotion c s p) p = applyPromotion c s p := by
  cases hen : c.enabled with
  | false => simp [applyPromotion, hen]
  | true =>
    rw [applyPromotion_enabled c s p hen, applyPromotion_enabled c _ p hen]
    cases hn : hasNode (ensure s).nodes p.cid with
    | true => simp [ensure_some, hn, attach_foldl_idem]
    | false => simp [ensure_some, attach_foldl_idem, hasNode_append_self]

/-- With `graph.enabled = false` every entry point returns the state untouched (not even the
implicit store creation happens) and default metrics. -/
theorem C18_gate_off_identity (c : Cfg α) (pw : α → α → α) (s : State α) (hoff : c.enabled = false) :
    (∀ items turn, observe c s items turn = (s, ⟨0, 0, 0⟩)) ∧
    (∀ dt turn, tick c pw s dt turn = (s, ⟨0, 0⟩)) ∧
    (∀ r, applyMerge c s r = s) ∧ (∀ r, applySplit c s r = s) ∧
    (∀ p, applyPromotion c s p = s) ∧ (∀ cl, promoteClusters c cl = []) ∧
    (∀ ops, run c pw s ops = s) := by
  exact ⟨fun _ _ => by simp [observe, hoff], fun _ _ => by simp [tick, hoff],
    fun _ => by simp [applyMerge, hoff], fun _ => by simp [applySplit, hoff],
    fun _ => by simp [applyPromotion, hoff], fun _ => by simp [promoteClusters, hoff],
    fun _ => Fold.foldl_fixed _ s _ (fun op _ => step_off c pw s hoff op)⟩

end Clem.Gel
