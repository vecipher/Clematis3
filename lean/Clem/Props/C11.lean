import Clem.Proofs.T2
import Clem.Proofs.T2Complete
import Clem.Proofs.T2ParBridge

/-!
# C11 — Retrieval honours scope, thresholds, caps and documented ranking

Property theorems only (helper lemmas live in `Clem/Proofs/T2.lean`, `T2Complete.lean` and
`T2ParBridge.lean`).  Every theorem is about the executable definitions of `Clem/Model/T2.lean` that
`clemdrv` runs against the real `t2_semantic`.  `α` is the numeric carrier; theorems that talk
about `≥ θ` or about the order use `[LinearOrder α] [NumOrd α]` (Boolean comparisons of the model agree with a linear order — the
arithmetic itself is uninterpreted, so rounding is irrelevant to them; NaN is excluded).

`retrieveCore` = tier walk + rescoring + final sort (what enters the rerank layers);
`t2` = the whole stage.
-/

namespace Clem.T2

open Clem.Py

section
variable {α : Type} [Num α]

/-! ## Core retrieval: caps, distinct ids, scope, threshold, tier rules -/

/-- Retrieval returns at most `k` episodes (`k_retrieval ≥ 1`, as the validator enforces). -/
theorem C11_len_le_k (c : Cfg α) (tiers : List Nat) (eps : List (Ep α)) (hk : 1 ≤ c.k) :
    ((retrieveCore c tiers eps).1.length : Int) ≤ c.k := by
  have h := (retrieveCore_perm c tiers eps).length_eq
  rw [List.length_map] at h
  exact h ▸ walk_length (Int.lt_of_lt_of_le Int.zero_lt_one hk)

/-- … with pairwise distinct ids (dedupe across tiers). -/
theorem C11_ids_nodup (c : Cfg α) (tiers : List Nat) (eps : List (Ep α)) :
    ((retrieveCore c tiers eps).1.map (·.1.id)).Nodup := by
  have h := (retrieveCore_perm c tiers eps).map (·.id)
  rw [List.map_map] at h
  exact h.nodup_iff.2 (walk_nodup List.nodup_nil)

/-- Every hit is an episode of the index, visible under the query owner, with a vector and a
cosine that passes the threshold test, and it meets the rule (`tierOk`: recency window / member of
a chosen top-m cluster / archive quarter) of one of the configured tiers. -/
theorem C11_hit_explained (c : Cfg α) (tiers : List Nat) (eps : List (Ep α)) :
    ∀ p ∈ (retrieveCore c tiers eps).1,
      p.1 ∈ eps ∧ visible c.owner p.1 = true ∧ passes c.θ p.1 = true
        ∧ (∃ t ∈ tiers, tierOk c eps p.1 t = true)
        ∧ p.2 = combined c eps p.1.id p.1.cos := by
  intro p hp
  obtain ⟨h1, h2⟩ := rescore_snd hp
  rcases walk_mem h1 with h | ⟨t, ht, _, h3⟩
  · cases h
  · obtain ⟨a, b, c', d⟩ := mem_searchTier h3
    exact ⟨a, b, c', ⟨t, ht, d⟩, h2⟩

/-- Agent scope never yields another owner's memories. -/
theorem C11_scope_agent (c : Cfg α) (tiers : List Nat) (eps : List (Ep α)) (a : Str)
    (hs : c.scope = 1) (ha : c.agent = some a) :
    ∀ p ∈ (retrieveCore c tiers eps).1, p.1.owner = .str a ∧ p.1.ownerStr = a := by
  intro p hp
  have h := (C11_hit_explained c tiers eps p hp).2.1
  rw [owner_of_scope_agent hs, ha] at h
  have : p.1.owner = .str a := visible_some.1 h
  exact ⟨this, by rw [Ep.ownerStr, this]⟩

/-- World scope yields only `world`-owned memories. -/
theorem C11_scope_world (c : Cfg α) (tiers : List Nat) (eps : List (Ep α)) (hs : c.scope = 2) :
    ∀ p ∈ (retrieveCore c tiers eps).1, p.1.owner = .str [119, 111, 114, 108, 100] := by
  intro p hp
  have h := (C11_hit_explained c tiers eps p hp).2.1
  rw [owner_of_scope_world hs] at h
  exact visible_some.1 h

omit [Num α] in
/-- OBSERVATION (not forbidden by the statement, but worth knowing): `owner_scope = agent` with
`ctx.agent_id = None` applies no owner filter at all. -/
theorem C11_scope_agent_none_unrestricted (c : Cfg α) (hs : c.scope = 1) (ha : c.agent = none)
    (eps : List (Ep α)) : filterOwner c.owner eps = eps := by
  rw [owner_of_scope_agent hs, ha]; rfl

/-- The exact tier alone honours the recency window (`te ≥ now − days`, days > 0). -/
theorem C11_exact_recent (c : Cfg α) (eps : List (Ep α)) (hd : 0 < c.days) :
    ∀ p ∈ (retrieveCore c [0] eps).1, recentOk c.days c.nowUs p.1 = true := by
  intro p hp
  obtain ⟨_, _, _, ⟨t, ht, h⟩, _⟩ := C11_hit_explained c [0] eps p hp
  simp only [List.mem_singleton] at ht
  subst ht
  exact (Bool.or_eq_true_iff.1 h).resolve_left fun h' => Int.not_le.2 hd (of_decide_eq_true h')

/-- The cluster tier alone serves only members of the chosen clusters, and at most `top_m`
clusters are chosen. -/
theorem C11_cluster_topm (c : Cfg α) (eps : List (Ep α)) (hm : 0 ≤ c.topM) :
    (∀ p ∈ (retrieveCore c [1] eps).1,
        p.1.cluster ∈ chosenClusters c.cscore c.topM (filterOwner c.owner eps))
      ∧ ((chosenClusters c.cscore c.topM (filterOwner c.owner eps)).length : Int) ≤ c.topM := by
  refine ⟨?_, chosenClusters_length _ _ _ hm⟩
  intro p hp
  obtain ⟨_, _, _, ⟨t, ht, h⟩, _⟩ := C11_hit_explained c [1] eps p hp
  simp only [List.mem_singleton] at ht
  subst ht
  exact List.contains_iff_mem.1 h

end

section
variable {α : Type} [Num α] [LinearOrder α] [NumOrd α]

/-- Every hit has a vector and meets the similarity threshold. -/
theorem C11_threshold (c : Cfg α) (tiers : List Nat) (eps : List (Ep α)) :
    ∀ p ∈ (retrieveCore c tiers eps).1, p.1.hasVec = true ∧ c.θ ≤ p.1.cos := by
  intro p hp
  have h := (C11_hit_explained c tiers eps p hp).2.2.1
  simp only [passes, Bool.and_eq_true] at h
  exact ⟨h.1, (NumOrd.le_iff _ _).1 h.2⟩

/-- The chosen clusters are the best ones: every chosen cluster sorts no later than every
non-chosen candidate cluster under `(−centroid score, cluster id)`. -/
theorem C11_cluster_best (cs : List (Str × α)) (m : Int) (eps : List (Ep α)) :
    ∃ rest, (isort clusterKeyLe (clusterScores cs eps))
        = pySlice m (isort clusterKeyLe (clusterScores cs eps)) ++ rest
      ∧ ∀ a ∈ pySlice m (isort clusterKeyLe (clusterScores cs eps)), ∀ b ∈ rest,
          clusterKeyLe a b = true := by
  obtain ⟨rest, hr⟩ := pySlice_prefix m (isort clusterKeyLe (clusterScores cs eps))
  refine ⟨rest, hr.symm, ?_⟩
  have hs : (isort clusterKeyLe (clusterScores cs eps)).Pairwise
      (fun a b => clusterKeyLe a b = true) :=
    isort_key_pairwise (fun a : Str × α => (Num.neg a.2, a.1)) _
  rw [← hr] at hs
  exact (List.pairwise_append.1 hs).2.2

/-- Each tier's answer is ranked by `(−cosine, id)`. -/
theorem C11_rank_sorted (k : Int) (θ : α) (eps : List (Ep α)) :
    (rankByCosine k θ eps).Pairwise (fun a b => keyLe (rankKey a) (rankKey b) = true) :=
  ((isort_key_pairwise rankKey _).sublist (dedupIds_sublist _)).sublist (pySlice_prefix k _).sublist

/-- The list entering the rerank layers is ordered by the documented combined score, descending,
ties by id ascending; and the score attached to each hit *is* the documented combination
`alpha*(cos+1)/2 + beta*recency + gamma*importance` (`combined`, with the clamps). -/
theorem C11_order (c : Cfg α) (tiers : List Nat) (eps : List (Ep α)) :
    (retrieveCore c tiers eps).1.Pairwise
        (fun a b => keyLe (Num.neg a.2, a.1.id) (Num.neg b.2, b.1.id) = true)
      ∧ ∀ p ∈ (retrieveCore c tiers eps).1, p.2 = combined c eps p.1.id p.1.cos :=
  ⟨isort_key_pairwise combKey _, fun p hp => (C11_hit_explained c tiers eps p hp).2.2.2.2⟩

/-- Spelled out: for hits `a` before `b`, `comb a > comb b`, or equal and `id a ≤ id b`. -/
theorem C11_order_spelled (c : Cfg α) (tiers : List Nat) (eps : List (Ep α)) :
    (retrieveCore c tiers eps).1.Pairwise
      (fun a b => Num.neg a.2 < Num.neg b.2 ∨ (Num.neg a.2 = Num.neg b.2 ∧ lexLe a.1.id b.1.id = true)) :=
  (C11_order c tiers eps).1.imp (fun h => (keyLe_iff _ _).1 h)

end

section
variable {α : Type} [Num α]

/-! ## Rerank layers only permute -/

/-- Hybrid graph rerank: whatever the configuration and the edge set, a successful call returns
a permutation that keeps position 0 and everything beyond `k_max` in place. -/
theorem C11_hybrid_perm (h : HCfg α) (items : List (Ep α)) (o : HOut (Ep α))
    (ho : hybrid h items = .ok o) :
    o.items.Perm items ∧ o.items.head? = items.head?
      ∧ o.items.drop (min (items.length : Int) h.kMax).toNat
          = items.drop (min (items.length : Int) h.kMax).toNat :=
  hybrid_spec h items o ho

/-- Lexical fusion permutes the candidate ids, for every configuration and every oracle table. -/
theorem C11_fuse_perm (q : QCfg α) (items : List (FItem α)) :
    ((fuse q items).map (·.ref.id)).Perm (items.map (·.ref.id)) := fuse_ids q items

/-- MMR permutes the candidate ids, for every `lambda`, `k` and token sets. -/
theorem C11_mmr_perm (q : QCfg α) (items : List (FItem α)) :
    ((maybeMmr q items).map (·.ref.id)).Perm (items.map (·.ref.id)) := maybeMmr_ids q items

/-- `apply_quality` as a whole is a permutation of its input — for every hybrid / fusion / MMR
configuration and for every failure of a layer (`h.fail`, `q.failFuse`, `q.failMmr1`,
`q.failMmr2` are universally quantified inside `h`, `q`): each layer falls back to its input. -/
theorem C11_apply_quality_perm (h : HCfg α) (q : QCfg α) (retrieved : List (Ep α))
    (hn : (retrieved.map (·.id)).Nodup) : (applyQuality h q retrieved).items.Perm retrieved :=
  applyQuality_perm h q hn

/-- The distinct-ids hypothesis is needed by the id→ref rebuilding: with a repeated id the
rebuild maps both items to the last reference (machine-checked witness at `α = Int`). -/
theorem C11_apply_quality_perm_needs_nodup :
    ∃ (l : List (Ep Int)) (items : List (FItem Int)),
      (items.map (·.ref.id)).Perm (l.map (·.id)) ∧ ¬ (@rebuild Int l items).Perm l := by
  let e1 : Ep Int := ⟨[1], .absent, true, 0, .missing, 0, [], 0, [1], []⟩
  let e2 : Ep Int := ⟨[1], .absent, true, 5, .missing, 0, [], 0, [2], []⟩
  refine ⟨[e1, e2], [⟨e1, 0, none⟩, ⟨e2, 0, none⟩], List.Perm.refl _, fun hp => ?_⟩
  -- both items are rebuilt to `e2`, so the cosine 0 of `e1` is lost
  have h0 : (0 : Int) ∈ [e1, e2].map (·.cos) := List.mem_cons_self ..
  exact absurd ((hp.map (·.cos)).mem_iff.2 h0) (by decide +kernel)

/-! ## The whole stage -/

/-- The final `retrieved` is a permutation of the sorted core retrieval. -/
theorem C11_t2_retrieved_perm (c : Cfg α) (tiers : List Nat) (eps : List (Ep α)) (h : HCfg α)
    (q : QCfg α) (t2k : Option Int) (cap : Int) (graphs : List (List GNode)) :
    (t2 c tiers eps h q t2k cap graphs).retrieved.Perm
      ((retrieveCore c tiers eps).1.map (·.1)) :=
  applyQuality_perm h q (by rw [List.map_map]; exact C11_ids_nodup c tiers eps)

/-- Hence the stage's `retrieved` has at most `k` hits, distinct ids, and every hit is visible
under the owner scope, passes the threshold test and meets a configured tier's rule — for every
rerank configuration and layer failure. -/
theorem C11_t2_retrieved (c : Cfg α) (tiers : List Nat) (eps : List (Ep α)) (h : HCfg α)
    (q : QCfg α) (t2k : Option Int) (cap : Int) (graphs : List (List GNode)) (hk : 1 ≤ c.k) :
    let r := (t2 c tiers eps h q t2k cap graphs).retrieved
    (r.length : Int) ≤ c.k ∧ (r.map (·.id)).Nodup
      ∧ ∀ e ∈ r, e ∈ eps ∧ visible c.owner e = true ∧ passes c.θ e = true
          ∧ ∃ t ∈ tiers, tierOk c eps e t = true := by
  intro r
  have hp := C11_t2_retrieved_perm c tiers eps h q t2k cap graphs
  refine ⟨?_, ?_, ?_⟩
  · show ((t2 c tiers eps h q t2k cap graphs).retrieved.length : Int) ≤ c.k
    rw [hp.length_eq, List.length_map]
    exact C11_len_le_k c tiers eps hk
  · exact (hp.map (·.id)).nodup_iff.2 (by rw [List.map_map]; exact C11_ids_nodup c tiers eps)
  · intro e he
    have : e ∈ (retrieveCore c tiers eps).1.map (·.1) := hp.mem_iff.1 he
    obtain ⟨p, hp', rfl⟩ := List.mem_map.1 this
    obtain ⟨a, b, c', d, _⟩ := C11_hit_explained c tiers eps p hp'
    exact ⟨a, b, c', d⟩

/-- Agent scope on the stage's final output. -/
theorem C11_t2_scope_agent (c : Cfg α) (tiers : List Nat) (eps : List (Ep α)) (h : HCfg α)
    (q : QCfg α) (t2k : Option Int) (cap : Int) (graphs : List (List GNode)) (a : Str)
    (hs : c.scope = 1) (ha : c.agent = some a) :
    ∀ e ∈ (t2 c tiers eps h q t2k cap graphs).retrieved, e.ownerStr = a := by
  intro e he
  have := (C11_t2_retrieved_perm c tiers eps h q t2k cap graphs).mem_iff.1 he
  obtain ⟨p, hp', rfl⟩ := List.mem_map.1 this
  exact (C11_scope_agent c tiers eps a hs ha p hp').2

/-- The hits used downstream are the first `max 0 t2_k` of `retrieved` (all when there is no cap). -/
theorem C11_used_is_take (c : Cfg α) (tiers : List Nat) (eps : List (Ep α)) (h : HCfg α)
    (q : QCfg α) (t2k : Option Int) (cap : Int) (graphs : List (List GNode)) :
    (t2 c tiers eps h q t2k cap graphs).used
      = match t2k with
        | none => (t2 c tiers eps h q t2k cap graphs).retrieved
        | some k => (t2 c tiers eps h q t2k cap graphs).retrieved.take (max 0 k).toNat := by
  cases t2k with
  | none => rfl
  | some k => exact usedHits_some k _

/-! ## Residual nudges -/

/-- Residual soundness: every residual id is a labelled node of an active graph whose
lower-cased label occurs in the lower-cased text of a hit that was actually USED. -/
theorem C11_residual_sound (c : Cfg α) (tiers : List Nat) (eps : List (Ep α)) (h : HCfg α)
    (q : QCfg α) (t2k : Option Int) (cap : Int) (graphs : List (List GNode)) :
    ∀ nid ∈ (t2 c tiers eps h q t2k cap graphs).residual,
      ∃ g ∈ graphs, ∃ n ∈ g, n.id = nid ∧ n.label.isEmpty = false
        ∧ ∃ e ∈ (t2 c tiers eps h q t2k cap graphs).used,
            isInfix (lowerAscii n.label) (lowerAscii e.text) = true :=
  residual_sound cap graphs _

/-- Residual cap, order and uniqueness: at most `max cap 0` nudges (with the fix
`C11_residual_cap_zero.diff`, in the repository as 8d9f285; the loop before it emits one nudge for `cap = 0`),
strictly sorted
(hence duplicate-free). -/
theorem C11_residual_cap_sorted (c : Cfg α) (tiers : List Nat) (eps : List (Ep α)) (h : HCfg α)
    (q : QCfg α) (t2k : Option Int) (cap : Int) (graphs : List (List GNode)) :
    (((t2 c tiers eps h q t2k cap graphs).residual.length : Int) ≤ max cap 0)
      ∧ (t2 c tiers eps h q t2k cap graphs).residual.Pairwise (fun a b => lexLt a b = true) :=
  ⟨residual_length_le cap graphs _, residual_sorted cap graphs _⟩

end

/-! ## Non-vacuity: a concrete carrier satisfying `NumOrd`, and concrete runs -/

def exEp (i : Nat) (o : Str) (cos : Int) : Ep Int :=
  ⟨[101, i], .str o, true, cos, .valid 0, 0, [99], 1, [97, 112, 112, 108, 101], []⟩
def exCfg : Cfg Int :=
  { scope := 1, agent := some [65], k := 2, θ := 1, days := 0, topM := 1, nowUs := 0, quarters := [],
    cscore := [], alpha := 1, beta := 0, gamma := 0 }
def exH : HCfg Int := ⟨false, true, 1, 1, 0, 0, 0, false, 0, 1, [], false⟩
def exQ : QCfg Int := ⟨true, true, 1, [], true, 0, none, false, true, false⟩
def exEps : List (Ep Int) := [exEp 1 [65] 3, exEp 2 [66] 9, exEp 3 [65] 0, exEp 4 [65] 5, exEp 5 [65] 7]

/-- Non-vacuity: with `k = 2`, agent `A`, θ = 1 the model returns exactly two of A's episodes
(the foreign `e2` with the best cosine and the sub-threshold `e3` are absent; integer fusion scores tie, so ids decide), and one
residual nudge; the hypotheses `1 ≤ k`, `scope = 1`, `agent = some a` are satisfiable. -/
example : ((t2 exCfg [0, 1, 2] exEps exH exQ (some 1) 3 [[⟨[110], [65, 112, 112]⟩]]).retrieved.map (·.id))
    = [[101, 4], [101, 5]] := by decide +kernel
example : (t2 exCfg [0, 1, 2] exEps exH exQ (some 1) 3 [[⟨[110], [65, 112, 112]⟩]]).residual = [[110]] := by
  decide +kernel
example : (1 : Int) ≤ exCfg.k ∧ exCfg.scope = 1 ∧ exCfg.agent = some [65] := by decide +kernel
/-- `hybrid` succeeds on some input (hypothesis of `C11_hybrid_perm`). -/
example : ∃ o, hybrid exH exEps = .ok o := ⟨_, rfl⟩

/-! ## The monitors evaluated on the real `T2Result` hold of the model's own output

`monCount … monResidual`, `monComplete` (`Clem/Model/T2Mon.lean`) are Boolean predicates the driver
evaluates on the implementation's output; here they are proved `true` of `t2 …` itself.  The driver's
`monSearch` and `monResidualComplete` have no such theorem: what they test is stated as `C11_rank_sorted`,
`C11_tier_topk` and `C11_residual_complete`. -/

section
variable {α : Type} [Num α]

theorem C11_mon_count (c : Cfg α) (tiers : List Nat) (eps : List (Ep α)) (h : HCfg α)
    (q : QCfg α) (t2k : Option Int) (cap : Int) (graphs : List (List GNode)) (hk : 1 ≤ c.k) :
    monCount c ((t2 c tiers eps h q t2k cap graphs).retrieved.map Ep.toHit) = true := by
  obtain ⟨h1, h2, _⟩ := C11_t2_retrieved c tiers eps h q t2k cap graphs hk
  unfold monCount
  rw [Bool.and_eq_true, nodupB_iff, List.map_map, List.length_map]
  exact ⟨by simpa using h1, h2⟩

theorem C11_mon_scope (c : Cfg α) (tiers : List Nat) (eps : List (Ep α)) (h : HCfg α)
    (q : QCfg α) (t2k : Option Int) (cap : Int) (graphs : List (List GNode)) (hk : 1 ≤ c.k) :
    monScope c ((t2 c tiers eps h q t2k cap graphs).retrieved.map Ep.toHit) = true := by
  obtain ⟨_, _, h3⟩ := C11_t2_retrieved c tiers eps h q t2k cap graphs hk
  unfold monScope
  cases ho : c.owner with
  | none => rfl
  | some o =>
    simp only [List.all_map, List.all_eq_true]
    intro e he
    have hv := (h3 e he).2.1
    rw [ho] at hv
    simp only [Function.comp, Ep.toHit, Ep.ownerStr, visible_some.1 hv, beq_iff_eq.mpr rfl]

theorem C11_mon_used (c : Cfg α) (tiers : List Nat) (eps : List (Ep α)) (h : HCfg α)
    (q : QCfg α) (t2k : Option Int) (cap : Int) (graphs : List (List GNode)) :
    monUsed t2k ((t2 c tiers eps h q t2k cap graphs).retrieved.map Ep.toHit)
      (t2 c tiers eps h q t2k cap graphs).used.length = true := by
  rw [monUsed, usedHits_map, List.length_map]
  exact beq_iff_eq.mpr rfl

theorem C11_mon_perm (c : Cfg α) (tiers : List Nat) (eps : List (Ep α)) (h : HCfg α)
    (q : QCfg α) (t2k : Option Int) (cap : Int) (graphs : List (List GNode)) :
    monPerm ((t2 c tiers eps h q t2k cap graphs).pre.map (·.1.id))
      ((t2 c tiers eps h q t2k cap graphs).retrieved.map (·.id)) = true := by
  unfold monPerm
  rw [List.isPerm_iff]
  have hp := (C11_t2_retrieved_perm c tiers eps h q t2k cap graphs).map (·.id)
  rw [List.map_map] at hp
  exact hp.symm

theorem C11_mon_hybrid (h : HCfg α) (items : List (Ep α)) (o : HOut (Ep α))
    (ho : hybrid h items = .ok o) :
    monHybrid h.kMax (items.map (·.id)) (o.items.map (·.id)) = true := by
  obtain ⟨h1, h2, h3⟩ := hybrid_spec h items o ho
  unfold monHybrid
  simp only [Bool.and_eq_true, List.isPerm_iff, List.length_map, beq_iff_eq]
  refine ⟨⟨(h1.map _).symm, ?_⟩, ?_⟩
  · rw [List.head?_map, List.head?_map, h2]
  · rw [← List.map_drop, ← List.map_drop, h3]

theorem C11_mon_residual (c : Cfg α) (tiers : List Nat) (eps : List (Ep α)) (h : HCfg α)
    (q : QCfg α) (t2k : Option Int) (cap : Int) (graphs : List (List GNode)) :
    monResidual t2k cap graphs ((t2 c tiers eps h q t2k cap graphs).retrieved.map Ep.toHit)
      (t2 c tiers eps h q t2k cap graphs).residual = true := by
  rw [monResidual, usedHits_map, Bool.and_eq_true, Bool.and_eq_true, pairwiseB_iff, List.all_eq_true]
  refine ⟨⟨fun nid hn => ?_, decide_eq_true (residual_length_le cap graphs _)⟩, residual_sorted cap graphs _⟩
  obtain ⟨g, hg, n, hn', h4, h5, e, he, h6⟩ := residual_sound cap graphs _ nid hn
  refine List.any_eq_true.2 ⟨g, hg, List.any_eq_true.2 ⟨n, hn', ?_⟩⟩
  rw [Bool.and_eq_true, Bool.and_eq_true, beq_iff_eq, h5]
  exact ⟨⟨h4, rfl⟩, List.any_eq_true.2 ⟨e.toHit, List.mem_map_of_mem he, h6⟩⟩

end

section
variable {α : Type} [Num α] [LinearOrder α] [NumOrd α]

theorem C11_mon_tier_threshold (c : Cfg α) (tiers : List Nat) (eps : List (Ep α)) (h : HCfg α)
    (q : QCfg α) (t2k : Option Int) (cap : Int) (graphs : List (List GNode)) (hk : 1 ≤ c.k) :
    monTier c tiers eps ((t2 c tiers eps h q t2k cap graphs).retrieved.map Ep.toHit) = true
      ∧ monThreshold c ((t2 c tiers eps h q t2k cap graphs).retrieved.map Ep.toHit) = true := by
  obtain ⟨_, _, h3⟩ := C11_t2_retrieved c tiers eps h q t2k cap graphs hk
  constructor
  · rw [monTier, List.all_map, List.all_eq_true]
    intro e he
    obtain ⟨a, b, c', t, ht, d⟩ := h3 e he
    refine List.any_eq_true.2 ⟨e, a, ?_⟩
    simp only [explains, Ep.toHit, beq_iff_eq.mpr rfl, (NumOrd.beq_iff _ _).2 rfl, b, c', Bool.true_and]
    exact List.any_eq_true.2 ⟨t, ht, d⟩
  · rw [monThreshold, List.all_map, List.all_eq_true]
    exact fun e he => (Bool.and_eq_true_iff.1 (h3 e he).2.2.1).2

theorem C11_mon_order (c : Cfg α) (tiers : List Nat) (eps : List (Ep α)) (h : HCfg α)
    (q : QCfg α) (t2k : Option Int) (cap : Int) (graphs : List (List GNode)) :
    monOrder c eps ((t2 c tiers eps h q t2k cap graphs).pre.map (fun p => p.1.toHit)) = true := by
  rw [monOrder, pairwiseB_iff, List.pairwise_map]
  obtain ⟨h1, h2⟩ := C11_order c tiers eps
  refine h1.imp_of_mem fun {a b} ha hb hab => ?_
  show keyLe (Num.neg (combined c eps a.1.id a.1.cos), a.1.id) (Num.neg (combined c eps b.1.id b.1.cos), b.1.id) = true
  rw [← h2 a ha, ← h2 b hb]
  exact hab

end

/-! ## Completeness: nothing that qualifies is dropped while there is room -/

section
variable {α : Type} [Num α]

/-- Retrieval completeness (`k ≥ 1`; episode ids MAY repeat in the memory — `_rank_by_cosine` keeps
one entry per id before the `k` cut): with fewer than `k` hits, every episode that is visible under
the scope, has a vector, meets the threshold and the rule of a configured tier is represented in
`retrieved` by a hit with its id — for every rerank configuration. -/
theorem C11_complete (c : Cfg α) (tiers : List Nat) (eps : List (Ep α)) (h : HCfg α)
    (q : QCfg α) (t2k : Option Int) (cap : Int) (graphs : List (List GNode)) (hk : 1 ≤ c.k)
    (hl : ((t2 c tiers eps h q t2k cap graphs).retrieved.length : Int) < c.k) :
    ∀ e ∈ eps, qualifies c tiers eps e = true →
      ∃ r ∈ (t2 c tiers eps h q t2k cap graphs).retrieved, r.id = e.id := by
  intro e he hq
  have hp := C11_t2_retrieved_perm c tiers eps h q t2k cap graphs
  have hlen := hl
  rw [hp.length_eq, List.length_map] at hlen
  obtain ⟨r, hr, hid⟩ := retrieveCore_complete c tiers eps hk hlen e he hq
  exact ⟨r, hp.mem_iff.2 hr, hid⟩

/-- … and with distinct episode ids the qualifying episode itself is returned. -/
theorem C11_complete_unique (c : Cfg α) (tiers : List Nat) (eps : List (Ep α)) (h : HCfg α)
    (q : QCfg α) (t2k : Option Int) (cap : Int) (graphs : List (List GNode)) (hk : 1 ≤ c.k)
    (hn : (eps.map (·.id)).Nodup)
    (hl : ((t2 c tiers eps h q t2k cap graphs).retrieved.length : Int) < c.k) :
    ∀ e ∈ eps, qualifies c tiers eps e = true → e ∈ (t2 c tiers eps h q t2k cap graphs).retrieved := by
  intro e he hq
  obtain ⟨r, hr, hid⟩ := C11_complete c tiers eps h q t2k cap graphs hk hl e he hq
  have hre : r ∈ eps := ((C11_t2_retrieved c tiers eps h q t2k cap graphs hk).2.2 r hr).1
  have : r = e := List.inj_on_of_nodup_map hn hre he hid
  rw [← this]; exact hr

theorem C11_mon_complete (c : Cfg α) (tiers : List Nat) (eps : List (Ep α)) (h : HCfg α)
    (q : QCfg α) (t2k : Option Int) (cap : Int) (graphs : List (List GNode)) (hk : 1 ≤ c.k) :
    monComplete c tiers eps ((t2 c tiers eps h q t2k cap graphs).retrieved.map Ep.toHit) = true := by
  rw [monComplete, Bool.or_eq_true, decide_eq_true_eq, List.length_map]
  by_cases hl : ((t2 c tiers eps h q t2k cap graphs).retrieved.length : Int) < c.k
  · refine .inr (List.all_eq_true.2 fun e he => ?_)
    cases hq : qualifies c tiers eps e with
    | false => rfl
    | true =>
      obtain ⟨r, hr, hid⟩ := C11_complete c tiers eps h q t2k cap graphs hk hl e he hq
      exact List.any_eq_true.2 ⟨r.toHit, List.mem_map_of_mem hr, beq_iff_eq.2 hid⟩
  · exact .inl (Int.not_lt.1 hl)

/-- Residual completeness: fewer than `max cap 0` nudges ⇒ every labelled node of an active graph
whose lower-cased label occurs in a used hit is represented (same lower-cased label). -/
theorem C11_residual_complete (c : Cfg α) (tiers : List Nat) (eps : List (Ep α)) (h : HCfg α)
    (q : QCfg α) (t2k : Option Int) (cap : Int) (graphs : List (List GNode))
    (hl : ((t2 c tiers eps h q t2k cap graphs).residual.length : Int) < max cap 0) :
    ∀ g ∈ graphs, ∀ n ∈ g, n.label.isEmpty = false →
      (∃ e ∈ (t2 c tiers eps h q t2k cap graphs).used,
        isInfix (lowerAscii n.label) (lowerAscii e.text) = true) →
      ∃ nid ∈ (t2 c tiers eps h q t2k cap graphs).residual, ∃ g' ∈ graphs, ∃ n' ∈ g',
        n'.id = nid ∧ lowerAscii n'.label = lowerAscii n.label :=
  residual_complete cap graphs _ hl

end

/-- Each tier returns the best `k` distinct ids of what qualifies for it under `(−cosine, id)`: a
qualifying episode is represented by a returned copy of its id that sorts no later (itself when ids
are distinct), or `k` episodes sorting no later were returned instead.  No unique-id hypothesis. -/
theorem C11_tier_topk {α : Type} [Num α] [LinearOrder α] [NumOrd α] (c : Cfg α) (t : Nat)
    (eps : List (Ep α)) (e : Ep α) (hk : 0 ≤ c.k) (ht : t ≤ 2) (he : e ∈ eps)
    (hq : qualifies c [t] eps e = true) :
    (∃ h ∈ searchTier c t eps, h.id = e.id ∧ keyLe (rankKey h) (rankKey e) = true)
      ∨ (((searchTier c t eps).length : Int) = c.k
        ∧ ∀ h ∈ searchTier c t eps, keyLe (rankKey h) (rankKey e) = true) := by
  simp only [qualifies, List.any_cons, List.any_nil, Bool.or_false, Bool.and_eq_true,
    decide_eq_true_eq] at hq
  exact searchTier_topk hk he hq.1.1 hq.1.2 hq.2.2

/-- A tier's answer never repeats an episode id, whatever the memory holds (re-added ids do not use
up several of the `k` slots). -/
theorem C11_tier_ids_nodup {α : Type} [Num α] (c : Cfg α) (t : Nat) (eps : List (Ep α)) :
    ((searchTier c t eps).map (·.id)).Nodup := searchTier_ids_nodup c t eps

/-- Non-vacuity of the completeness hypotheses: distinct ids, `k = 10`, fewer than `k` hits, and a
qualifying episode (so `C11_complete` / `C11_tier_topk` have instances). -/
example : (exEps.map (·.id)).Nodup
    ∧ ((t2 { exCfg with k := 10 } [0, 1, 2] exEps exH exQ none 3 []).retrieved.length : Int) < 10
    ∧ qualifies { exCfg with k := 10 } [0, 1, 2] exEps (exEp 5 [65] 7) = true := by decide +kernel

/-- Non-vacuity of `C11_residual_complete`: cap 3, one nudge. -/
example : ((t2 exCfg [0, 1, 2] exEps exH exQ (some 1) 3 [[⟨[110], [65, 112, 112]⟩]]).residual.length : Int)
    < max 3 0 := by decide +kernel

/-- FULL statement wanted: `|residual| ≤ max residual_cap 0`.  It holds of the repaired loop
(`C11_residual_cap_sorted`).  The loop as it stood before 8d9f285 violates it — machine-checked
witness: `residual_cap_per_turn = 0`, one used hit "apple", one node labelled "App" ⇒ one nudge. -/
theorem C11_residual_cap_unpatched_violates :
    ∃ (cap : Int) (graphs : List (List GNode)) (used : List (Ep Int)),
      ¬ (((resOuterUnpatched cap (labelMap graphs) used []).length : Int) ≤ max cap 0) :=
  ⟨0, [[⟨[110], [65, 112, 112]⟩]], [exEp 1 [65] 3], by decide +kernel⟩

/-- What the unpatched loop does satisfy (`_partial`): at most `max cap 1` nudges. -/
theorem C11_residual_cap_unpatched_partial {α : Type} [Num α] (cap : Int) (lm : List (Str × Str))
    (used : List (Ep α)) (ch : List Str) (hl : (ch.length : Int) < max cap 1) :
    ((resOuterUnpatched cap lm used ch).length : Int) ≤ max cap 1 := by
  rw [resOuterUnpatched_eq]
  refine capLoop_length (Int.le_max_left cap 1) hl fun e _ a a' ha h => ?_
  exact Option.some.inj h ▸ resInner_length (Int.le_max_left cap 1) ha

/-- The tier monitor used on results of the parallel (sharded) path is implied by the full one
(it only waives the global top-m cluster rule), so it too is `true` of the model's output. -/
theorem C11_mon_tier_par {α : Type} [Num α] (c : Cfg α) (tiers : List Nat) (eps : List (Ep α))
    (hits : List (Hit α)) (h : monTier c tiers eps hits = true) :
    monTierPar c tiers eps hits = true := by
  rw [monTier, List.all_eq_true] at h
  rw [monTierPar, List.all_eq_true]
  intro x hx
  obtain ⟨e, he, hex⟩ := List.any_eq_true.1 (h x hx)
  rw [explains, Bool.and_eq_true, List.any_eq_true] at hex
  obtain ⟨h1, t, ht, hto⟩ := hex
  refine List.any_eq_true.2 ⟨e, he, ?_⟩
  rw [explainsPar, Bool.and_eq_true, List.any_eq_true]
  refine ⟨h1, t, ht, ?_⟩
  unfold tierOkPar
  split
  · rfl
  · exact hto

/-- The one-entry-per-id step of `_rank_by_cosine` in this model is the function C09's fan-out model
uses (`Clem.ParT2.dedupIds`), seen through `(id, score)`. -/
theorem C11_dedup_same_as_fanout {α : Type} (l : List (Ep α)) :
    (dedupIds l).map Ep.toParHit = Clem.ParT2.dedupIds (l.map Ep.toParHit) := dedupIds_eq_par l

end Clem.T2
