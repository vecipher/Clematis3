/-
C20 — Optional subsystems fail soft: a turn always completes.

Statement (properties.jsonl): a failure inside any subsystem the engine declares optional or best-effort
(snapshot boot loading, GEL maintenance passes, reflection, LLM adapter construction, rerank/quality/tracing
layers, cache invalidation, store apply errors, snapshot sidecar write) never aborts a turn; the turn still
returns a result and emits its canonical T1/T2/T4/apply/turn records, equal to those of a run in which that
subsystem is switched off or idle.

The theorems are about `Clem.Turn.runTurn` (the control skeleton the driver executes) instantiated with
`guardOf`, the guard status computed from the table GENERATED from the repository's AST.
-/
import Clem.Proofs.Turn
import Clem.Model.Quality

namespace Clem.Props.C20
open Clem.Turn Clem.Gen.FailSoft

/-! ### 1. the table: every declared fail-soft site is inside `try … except Exception` in the current source -/

theorem C20_FailSoft_table : ∀ s ∈ declared, guardOf s = true := by decide +kernel

/-- the fail-soft layers of `apply_quality` (hybrid rerank, fusion, MMR, MMR fallback, shadow trace), the
telemetry writer's own guard and the sidecar writer's own guard -/
theorem C20_FailSoft_quality_table : ∀ p ∈ qualitySites, guardedAll p.1 p.2 = true := by decide +kernel

/-- Scope note, machine-checked: these calls are NOT in the property's list and are bare calls in the
current source (`write_snapshot` inside `apply_changes`, health check).  (`gel_observe` / `gel_tick` were in this
list until fix `C20_gel_observe_tick_fail_soft`: a foreign snapshot with a malformed GEL edge record made the decay
pass abort every turn.) -/
theorem C20_observed_unguarded : ∀ s ∈ observedUnguarded, guardOf s = false := by decide +kernel

/-- The store hooks the snapshot writer and the boot loader call (`store.export_state()`, `store.import_state()`)
are protected inside `_export_store_for_snapshot` / `_import_store_from_snapshot`.  Not in C20's own list (store
robustness is C04's clause); checked here because `write_snapshot`'s body is a bare call in `apply_changes`, so an
unprotected hook aborts the turn after the batch was applied — the fault-injection stream exercises both. -/
theorem C20_store_hooks_guarded :
    guardedAll .export_store .store_export_state = true ∧ guardedAll .import_store .store_import_state = true := by
  decide +kernel

/-- a script in which nothing fails -/
def envOk : Env :=
  { bootLoad := .ok none, t1 := fun _ => .ok ⟨1, some 1, some 1, some 1⟩, t2 := fun _ => .ok ⟨2, some 1, some 1, 1⟩,
    gelObserve := .ok 0, deliberate := fun _ => .ok ⟨3, 1, false, true⟩, rag := fun _ p => .ok p, t3Trace := .ok (),
    adapterBuild := .ok false, speak := fun _ _ => .ok (some 7), dialogue := fun _ => .ok (some 8),
    t4 := fun _ _ _ => .ok ⟨4, [1, 2], 0⟩, gelTick := .ok 0, mergeCand := .ok 2, applyMerge := fun _ => .ok (),
    splitCand := .ok 1, applySplit := fun _ => .ok (), promote := .ok 1, applyPromo := fun _ => .ok (),
    storeBatch := fun ds => .ok (ds.length, 0), storeOne := fun _ => .ok (1, 0), invalidate := fun _ => .ok (),
    snapBody := .ok (), sidecar := .ok (), reflectRun := none, reflect := .ok ⟨1, 5⟩, reflectWrite := .ok 1,
    reflectLog := .ok (), health := .ok (), yieldAt := fun _ _ _ _ => none }

def cfgAll : Cfg :=
  { dryRun := false, schedEnabled := false, cacheEnabled := true, graphEnabled := true, t3Enabled := true,
    t4Enabled := true, doMerge := true, doSplit := true, doPromo := true, capMerge := 4, capSplit := 4, capPromo := 2,
    ragAllowed := true, backendLlm := true, dialoguePatched := false, allowReflection := true, bustOnApply := true,
    namespaces := 1, snapshotDue := true, storeKind := .ok, textId := 1, inputBlank := false }

def st0 : St := ⟨.num 0, false, none, false, 0, false⟩

/-- every declared site except `reflectRun` failing (exception ids 1…19 without 8; single deltas fail only for delta 1) -/
def envAllFail : Env :=
  { envOk with
    gelObserve := .error 18, gelTick := .error 19, bootLoad := .error 1, mergeCand := .error 2, applyMerge := fun _ => .error 3, splitCand := .error 4,
    applySplit := fun _ => .error 5, promote := .error 6, applyPromo := fun _ => .error 7, reflectRun := none,
    reflect := .error 9, reflectWrite := .error 10, reflectLog := .error 11, adapterBuild := .error 12,
    t3Trace := .error 13, invalidate := fun _ => .error 14, storeBatch := fun _ => .error 15,
    storeOne := fun d => if d = 1 then .error 16 else .ok (1, 0), sidecar := .error 17 }

-- `observedUnguarded` is not idle talk: a failure at either site aborts the modelled turn
example : isOk (runTurn guardOf cfgAll { envOk with health := .error 5 } st0) = false := by decide +kernel
example : isOk (runTurn guardOf cfgAll { envOk with snapBody := .error 5 } st0) = false := by decide +kernel

/-! ### 2. the turn completes -/

theorem C20_failsOnlyAt_mono {g g' : Site → Bool} {e : Env} (hg : ∀ s, g s = true → g' s = true)
    (h : FailsOnlyAt g e) : FailsOnlyAt g' e :=
  { h with
    bootLoad := fun x hx => hg _ (h.bootLoad x hx), gelObserve := fun x hx => hg _ (h.gelObserve x hx),
    t3Trace := fun x hx => hg _ (h.t3Trace x hx), adapterBuild := fun x hx => hg _ (h.adapterBuild x hx),
    gelTick := fun x hx => hg _ (h.gelTick x hx),
    mergeCand := fun x hx => hg _ (h.mergeCand x hx), applyMerge := fun i x hx => hg _ (h.applyMerge i x hx),
    splitCand := fun x hx => hg _ (h.splitCand x hx), applySplit := fun i x hx => hg _ (h.applySplit i x hx),
    promote := fun x hx => hg _ (h.promote x hx), applyPromo := fun i x hx => hg _ (h.applyPromo i x hx),
    storeBatch := fun d x hx => hg _ (h.storeBatch d x hx), storeOne := fun d x hx => hg _ (h.storeOne d x hx),
    invalidate := fun i x hx => hg _ (h.invalidate i x hx), snapBody := fun x hx => hg _ (h.snapBody x hx),
    sidecar := fun x hx => hg _ (h.sidecar x hx), reflectRun := fun x hx => hg _ (h.reflectRun x hx),
    reflect := fun x hx => hg _ (h.reflect x hx), reflectWrite := fun x hx => hg _ (h.reflectWrite x hx),
    reflectLog := fun x hx => hg _ (h.reflectLog x hx), health := fun x hx => hg _ (h.health x hx) }

/-- Any script whose failures all sit at sites protected by `g` (any subset of them, any exception
values, any stage outputs, any configuration, any state): the turn returns a result. -/
theorem C20_FailSoft_completes (g : Site → Bool) (c : Cfg) (e : Env) (st : St) (h : FailsOnlyAt g e) :
    ∃ em, runTurn g c e st = .ok em := by
  refine chain_ok _ ?_ _
  simp only [phases, List.forall_mem_cons]
  exact ⟨phBoot_ok h, phCacheInit_ok c, phT1_ok h c, phT2_ok h c, phGelObserve_ok h c, phT3_ok h c, phT4_ok h c,
    phGelTick_ok h c, phGelBlock_ok h c, phApply_ok h c, phReflect_ok h c, phFinish_ok h c, nofun⟩

/-! ### 3. …with the records of the run in which the failing subsystems are idle -/

/-- For every set `S` of protected sites: running against the script in which the failures at `S` are
replaced by the idle outcome is the SAME run — same result, same records (all streams), same calls, same
state.  (`idle` covers boot load, adapter construction, T3 trace, reflection compute/write/telemetry,
single-delta store errors, sidecar write.) -/
theorem C20_idle_same_run (g S : Site → Bool) (hS : ∀ s, S s = true → g s = true) (c : Cfg) (e : Env) (st : St) :
    runTurn g c (idle S e) st = runTurn g c e st := by
  unfold runTurn
  rw [phases_idle hS]

/-- The property, for the current source: if the script fails only at sites of `S`, and `S` contains only
declared fail-soft sites, then `run_turn` returns a result, and its result line, canonical T1/T2/T4/apply/turn
records and state equal those of the run where the subsystems of `S` are idle. -/
theorem C20_FailSoft_turn (S : Site → Bool) (hS : ∀ s, S s = true → s ∈ declared) (c : Cfg) (e : Env) (st : St)
    (h : FailsOnlyAt S e) :
    (∃ em, runTurn guardOf c e st = .ok em) ∧
      proj (runTurn guardOf c e st) = proj (runTurn guardOf c (idle S e) st) := by
  have hg : ∀ s, S s = true → guardOf s = true := fun s hs => C20_FailSoft_table s (hS s hs)
  exact ⟨C20_FailSoft_completes guardOf c e st (C20_failsOnlyAt_mono hg h), by rw [C20_idle_same_run guardOf S hg]⟩

/-- non-vacuity: the script fails at 18 of the 19 declared sites (all but `reflectRun`); the turn completes with the
records of the idle run -/
example : isOk (runTurn guardOf cfgAll envAllFail st0) = true := by decide +kernel
example : sameCanon (runTurn guardOf cfgAll envAllFail st0)
    (runTurn guardOf cfgAll (idle (fun s => decide (s ∈ declared)) envAllFail) st0) = true := by decide +kernel

/-! ### 4. per-site lemmas -/

/-- GEL maintenance: whenever the block completes (it does when its failures are protected —
`phGelBlock_ok`), its contribution to working set, canonical records and control flow is that of the run with
merge/split/promotion switched OFF. -/
theorem C20_gel_maintenance_off (g : Site → Bool) (c : Cfg) (e : Env) (k : Core) (em : Emit)
    (h : phGelBlock g c e k = .ok em) :
    proj (phGelBlock g c e k) =
      proj (phGelBlock g { c with doMerge := false, doSplit := false, doPromo := false } e k) := by
  rw [h, phGelBlock_inert g c e k em h]
  unfold phGelBlock
  cases c.t4Enabled <;> cases c.graphEnabled <;> rfl

example : (gelBody cfgAll envAllFail).2.1 = some (.gelMergeCand, 2) := by decide +kernel

/-- GEL observe / decay tick: a failing pass contributes what the pass switched off contributes (no `gel`
record, working set untouched, turn goes on). -/
theorem C20_gel_observe_fail_eq_off (g : Site → Bool) (c : Cfg) (e : Env) (k : Core) (x : Exc)
    (hf : e.gelObserve = .error x) (hg : g .gelObserve = true) :
    proj (phGelObserve g c e k) = proj (phGelObserve g { c with graphEnabled := false } e k) := by
  by_cases hc : (c.graphEnabled && !c.dryRun) = true
  · simp [phGelObserve, hc, hf, hg, cont, proj, canonLogs]
  · simp [phGelObserve, hc, cont, proj]

theorem C20_gel_tick_fail_eq_off (g : Site → Bool) (c : Cfg) (e : Env) (k : Core) (x : Exc)
    (hf : e.gelTick = .error x) (hg : g .gelTick = true) :
    proj (phGelTick g c e k) = proj (phGelTick g { c with graphEnabled := false } e k) := by
  by_cases hc : (c.t4Enabled && c.graphEnabled) = true
  · simp [phGelTick, hc, hf, hg, cont, proj, canonLogs]
  · simp [phGelTick, hc, cont, proj]

/-- boot load: any failure (any file content that makes the loader raise) leaves the state at its defaults;
only `_boot_loaded` is set. -/
theorem C20_boot_fail (g : Site → Bool) (e : Env) (k : Core) (x : Exc) (hb : e.bootLoad = .error x)
    (hg : g .bootLoad = true) (hk : k.st.bootLoaded = false) :
    phBoot g e k = cont { k with st := { k.st with bootLoaded := true } } [] [.bootLoad] := by
  simp [phBoot, hb, hg, hk, tryD]

/-- adapter construction: a failure falls back to the rule-based speaker with the fallback flag set, exactly
like "no adapter". -/
theorem C20_adapter_fallback (g : Site → Bool) (c : Cfg) (e : Env) (st : St) (p : Plan) (x : Exc)
    (hc : c.dialoguePatched = false) (hl : c.backendLlm = true) (ha : st.adapter = false)
    (hb : e.adapterBuild = .error x) (hg : g .adapterBuild = true) :
    speakPart g c e st p = speakPart g c { e with adapterBuild := .ok false } st p := by
  simp [speakPart, hc, hl, ha, hb, hg, tryD]

/-- reflection compute: a failure of `reflect` gives the records and state of the run with reflection
switched OFF (telemetry is not a canonical stream). -/
theorem C20_reflect_fail_eq_off (g : Site → Bool) (c : Cfg) (e : Env) (k : Core) (x : Exc)
    (hr : e.reflectRun = none) (hd : c.dryRun = false) (hf : e.reflect = .error x) (hg : g .reflectCompute = true)
    (hl : ∀ y, e.reflectLog = .error y → g .reflectLog = true) :
    proj (phReflect g c e k) = proj (phReflect g { c with allowReflection := false } e k) := by
  -- the failed computation counts as the empty result `⟨0, 0⟩`: nothing is written, and the telemetry call returns
  obtain ⟨u, hu⟩ := tryD_ok_of () hl
  have hc : tryD g .reflectCompute (⟨0, 0⟩ : ReflOut) e.reflect = .ok ⟨0, 0⟩ := by rw [hf]; exact if_pos hg
  unfold phReflect reflPart
  rw [hr, hc, hu]
  dsimp only
  rw [hd]
  cases (c.allowReflection && (k.plan.reflection || k.st.plannerFlag)) <;> rfl

/-- store errors: when the batch call fails, every delta is offered once more singly, failing singles
are skipped, and the turn goes on to the version bump. -/
theorem C20_store_batch_fallback (g : Site → Bool) (c : Cfg) (e : Env) (k : Core) (x : Exc)
    (ht : c.t4Enabled = true) (hs : c.storeKind = .ok) (hb : e.storeBatch k.t4.approved = .error x)
    (hg : g .storeBatch = true) (a cl : Int) (cs : List Site)
    (he : applyEach g e.storeOne k.t4.approved = .ok (a, cl, cs)) :
    phApply g c e k = applyAfterStore g c e k a cl (Site.storeBatch :: cs) := by
  simp [phApply, ht, hs, hb, hg, he]

theorem C20_applyFinish_proj_calls (g : Site → Bool) (c : Cfg) (e : Env) (k : Core) (a cl : Int) (inv : Nat) (st : St)
    (cs cs2 : List Site) :
    proj (applyFinish g c e k a cl inv st cs) = proj (applyFinish g c e k a cl inv st cs2) := by
  unfold applyFinish
  cases snapPart g c e with
  | error x => rfl
  | ok r => exact proj_yieldCheck_calls ..

/-- cache invalidation: a failure on the first namespace gives the `apply` record and cache of the run with
`cache_bust_mode` off. -/
theorem C20_invalidate_fail_eq_off (g : Site → Bool) (c : Cfg) (e : Env) (k : Core) (a cl : Int) (cs : List Site)
    (x : Exc) (n : Nat) (hn : c.namespaces = n + 1) (hf : e.invalidate 0 = .error x)
    (hg : g .cacheInvalidate = true) :
    proj (applyAfterStore g c e k a cl cs) = proj (applyAfterStore g { c with bustOnApply := false } e k a cl cs) := by
  have h2 : applyAfterStore g { c with bustOnApply := false } e k a cl cs = applyFinish g c e k a cl 0 k.st cs := rfl
  rw [h2]
  unfold applyAfterStore
  cases (c.bustOnApply && k.st.cache.isSome) with
  | false => rfl
  | true =>
    -- the loop stops at namespace 0: nothing counted, nothing dropped, one call made
    rw [hn, if_pos rfl]
    unfold invalidateLoop
    rw [hf]
    exact (congrArg proj (if_pos hg)).trans (C20_applyFinish_proj_calls ..)

/-- sidecar write: a failure does not change anything the turn reports (the snapshot body is written). -/
theorem C20_sidecar_fail (g : Site → Bool) (c : Cfg) (e : Env) (x : Exc) (hf : e.sidecar = .error x)
    (hg : g .sidecarWrite = true) : snapPart g c e = snapPart g c { e with sidecar := .ok () } := by
  simp [snapPart, hf, hg, tryD]


/-! ### 4b. turn sequences -/

/-- a sequence of turns on one world: the state is threaded, the sequence stops at the first turn that raises -/
def runSeq (g : Site → Bool) : List (Cfg × Env) → St → Except Exc (List Emit × St)
  | [], st => .ok ([], st)
  | (c, e) :: rest, st =>
    match runTurn g c e st with
    | .error x => .error x
    | .ok em =>
      match runSeq g rest em.core.st with
      | .error x => .error x
      | .ok (ems, st') => .ok (em :: ems, st')

/-- every turn of a sequence completes when, in every turn, the failures are at protected sites -/
theorem C20_FailSoft_seq_completes (g : Site → Bool) (ts : List (Cfg × Env)) (st : St)
    (h : ∀ t ∈ ts, FailsOnlyAt g t.2) : ∃ r, runSeq g ts st = .ok r := by
  induction ts generalizing st with
  | nil => exact ⟨_, rfl⟩
  | cons t rest ih =>
    obtain ⟨c, e⟩ := t
    obtain ⟨em, hem⟩ := C20_FailSoft_completes g c e st (h (c, e) List.mem_cons_self)
    obtain ⟨⟨ems, st'⟩, hr⟩ := ih em.core.st (fun t ht => h t (List.mem_cons_of_mem _ ht))
    exact ⟨(em :: ems, st'), by simp only [runSeq, hem, hr]⟩

/-- …and the whole sequence (every record of every turn, the final state) is that of the sequence in which
the failing subsystems of `S` are idle in every turn -/
theorem C20_FailSoft_seq_idle (g S : Site → Bool) (hS : ∀ s, S s = true → g s = true) (ts : List (Cfg × Env)) (st : St) :
    runSeq g (ts.map (fun t => (t.1, idle S t.2))) st = runSeq g ts st := by
  induction ts generalizing st with
  | nil => rfl
  | cons t rest ih =>
    obtain ⟨c, e⟩ := t
    simp only [List.map_cons, runSeq, C20_idle_same_run g S hS]
    cases hr : runTurn g c e st with
    | error x => rfl
    | ok em => simp only [ih]

/-- the property over turn sequences, for the current source -/
theorem C20_FailSoft_seq (S : Site → Bool) (hS : ∀ s, S s = true → s ∈ declared) (ts : List (Cfg × Env)) (st : St)
    (h : ∀ t ∈ ts, FailsOnlyAt S t.2) :
    (∃ r, runSeq guardOf ts st = .ok r) ∧
      runSeq guardOf (ts.map (fun t => (t.1, idle S t.2))) st = runSeq guardOf ts st := by
  have hg : ∀ s, S s = true → guardOf s = true := fun s hs => C20_FailSoft_table s (hS s hs)
  exact ⟨C20_FailSoft_seq_completes guardOf ts st (fun t ht => C20_failsOnlyAt_mono hg (h t ht)),
         C20_FailSoft_seq_idle guardOf S hg ts st⟩

example : isOk (runSeq guardOf [(cfgAll, envAllFail), (cfgAll, envAllFail), (cfgAll, envOk)] st0) = true := by decide +kernel

/-- reflection wrapper failing outside its inner `try` = reflection switched off -/
theorem C20_reflect_run_fail_eq_off (g : Site → Bool) (c : Cfg) (e : Env) (k : Core) (x : Exc)
    (hr : e.reflectRun = some x) (hg : g .reflectRun = true) (hd : c.dryRun = false) :
    proj (phReflect g c e k) =
      proj (phReflect g { c with allowReflection := false } { e with reflectRun := none } k) := by
  simp [phReflect, reflPart, hr, hg, hd, cont, proj]

/-! ### 5. the T2 quality layers (`apply_quality`) -/

section quality
open Clem.Quality

/-- every layer of `apply_quality` is protected in the current source -/
theorem C20_quality_table : ∀ s ∈ allQSites, qGuardOf s = true := by decide +kernel

/-- every failure of the script is at a layer that `g` protects -/
structure QFailsOnlyAt (g : QSite → Bool) (e : QEnv) : Prop where
  rerank : ∀ l x, e.rerank l = .error x → g .rerank = true
  fuse : ∀ l x, e.fuse l = .error x → g .fuse = true
  mmr : ∀ l x, e.mmr l = .error x → g .mmr = true
  mmrFallback : ∀ l x, e.mmrFallback l = .error x → g .mmrFallback = true
  cfgSnap : ∀ x, e.cfgSnap = .error x → g .cfgSnap = true
  trace : ∀ x, e.trace = .error x → g .trace = true

/-- `apply_quality` never raises, whatever its layers do (any subset failing, any exceptions, any input). -/
theorem C20_quality_total (g : QSite → Bool) (c : QCfg) (e : QEnv) (r : List Nat) (h : QFailsOnlyAt g e) :
    ∃ out, applyQuality g c e r = .ok out := by
  have h1 : ∃ p, hybridStep g c e r = .ok p := by
    unfold hybridStep
    cases c.hybridOn with
    | false => exact ⟨_, rfl⟩
    | true =>
      cases hr : e.rerank r with
      | ok p => exact ⟨_, rfl⟩
      | error x => exact ⟨_, if_pos (h.rerank r x hr)⟩
  obtain ⟨⟨r1, hu⟩, h1⟩ := h1
  have h2 : ∃ p, fusionStep g c e r1 = .ok p := by
    unfold fusionStep
    cases c.qualityOn with
    | false => exact ⟨_, rfl⟩
    | true =>
      cases hf : e.fuse r1 with
      | error x => exact ⟨_, if_pos (h.fuse r1 x hf)⟩
      | ok fused =>
        dsimp only
        cases c.mmrOn with
        | false => exact ⟨_, rfl⟩
        | true =>
          cases hm : e.mmr fused with
          | error x => exact ⟨_, if_pos (h.mmr fused x hm)⟩
          | ok mm => exact ⟨_, rfl⟩
  obtain ⟨⟨r2, fu, mu, n⟩, h2⟩ := h2
  have h3 : ∃ p, fallbackStep g c e r2 mu n = .ok p := by
    unfold fallbackStep
    cases (!mu && c.mmrOn) with
    | false => exact ⟨_, rfl⟩
    | true =>
      cases hm : e.mmrFallback r2 with
      | error x => exact ⟨_, if_pos (h.mmrFallback r2 x hm)⟩
      | ok mm => exact ⟨_, rfl⟩
  obtain ⟨⟨r3, mu', n'⟩, h3⟩ := h3
  have h4 : traceStep g c e = .ok () := by
    unfold traceStep
    cases c.traceGate with
    | false => rfl
    | true =>
      cases hc : e.cfgSnap with
      | error x => exact if_pos (h.cfgSnap x hc)
      | ok u =>
        cases ht : e.trace with
        | error x => exact if_pos (h.trace x ht)
        | ok u => rfl
  exact ⟨⟨r3, hu, fu, mu', n'⟩, by simp only [applyQuality, h1, h2, h3, h4]⟩

/-- for the current source: the declared layers are protected, so the theorem applies to any script -/
theorem C20_quality_total_current (c : QCfg) (e : QEnv) (r : List Nat) : ∃ out, applyQuality qGuardOf c e r = .ok out :=
  have h : ∀ s, qGuardOf s = true := fun s => C20_quality_table s (by cases s <;> decide)
  C20_quality_total qGuardOf c e r
    ⟨fun _ _ _ => h _, fun _ _ _ => h _, fun _ _ _ => h _, fun _ _ _ => h _, fun _ _ => h _, fun _ _ => h _⟩

/-- hybrid rerank failing = hybrid switched off -/
theorem C20_quality_rerank_fail_eq_off (g : QSite → Bool) (c : QCfg) (e : QEnv) (r : List Nat) (x : Quality.Exc)
    (hf : e.rerank r = .error x) (hg : g .rerank = true) :
    applyQuality g c e r = applyQuality g { c with hybridOn := false } e r := by
  refine applyQuality_congr ?_ (fun _ => rfl) (fun _ _ _ => rfl) rfl
  simp only [hybridStep, hf, hg, if_true, ite_self, Bool.false_eq_true]

/-- fusion failing = quality fusion switched off (the MMR fallback still runs on the unfused order) -/
theorem C20_quality_fuse_fail_eq_off (g : QSite → Bool) (c : QCfg) (e : QEnv) (r : List Nat)
    (hf : ∀ l, ∃ x, e.fuse l = .error x) (hg : g .fuse = true) :
    applyQuality g c e r = applyQuality g { c with qualityOn := false } e r := by
  refine applyQuality_congr rfl (fun l => ?_) (fun _ _ _ => rfl) rfl
  obtain ⟨x, hx⟩ := hf l
  simp only [fusionStep, hx, hg, if_true, ite_self, Bool.false_eq_true]

/-- shadow trace failing (config snapshot or emit) = tracing switched off -/
theorem C20_quality_trace_fail_eq_off (g : QSite → Bool) (c : QCfg) (e : QEnv) (r : List Nat)
    (hf : (∃ x, e.cfgSnap = .error x) ∨ ((∃ u, e.cfgSnap = .ok u) ∧ ∃ x, e.trace = .error x))
    (hg1 : g .cfgSnap = true) (hg2 : g .trace = true) :
    applyQuality g c e r = applyQuality g { c with traceGate := false } e r := by
  refine applyQuality_congr rfl (fun _ => rfl) (fun _ _ _ => rfl) ?_
  rcases hf with ⟨x, hx⟩ | ⟨⟨u, hu⟩, x, hx⟩
  · simp only [traceStep, hx, hg1, if_true, ite_self, Bool.false_eq_true]
  · simp only [traceStep, hu, hx, hg2, if_true, ite_self, Bool.false_eq_true]

/-- MMR fallback failing (with fusion off) = MMR switched off -/
theorem C20_quality_mmr_fallback_fail_eq_off (g : QSite → Bool) (c : QCfg) (e : QEnv) (r : List Nat)
    (hq : c.qualityOn = false) (hf : ∀ l, ∃ x, e.mmrFallback l = .error x) (hg : g .mmrFallback = true) :
    applyQuality g c e r = applyQuality g { c with mmrOn := false } e r := by
  refine applyQuality_congr rfl (fun l => ?_) (fallbackStep_fail_eq_off c hf hg) rfl
  simp only [fusionStep, hq, Bool.false_eq_true, if_false]

/-- non-vacuity: all six layers fail at once -/
def qEnvAllFail : QEnv :=
  { rerank := fun _ => .error 1, fuse := fun _ => .error 2, mmr := fun _ => .error 3, mmrFallback := fun _ => .error 4,
    cfgSnap := .error 5, trace := .error 6 }

example : okIs (applyQuality qGuardOf ⟨true, true, true, true⟩ qEnvAllFail [3, 1, 2]) ⟨[3, 1, 2], false, false, false, 0⟩ = true := by
  decide +kernel

/-- MMR failing (inside the fusion block and in the fallback) = MMR switched off: the fused order and the
fusion flag/metrics are those of the run without MMR.  (Holds for the code after fix 8564e4c,
`proposed_fixes/C20_mmr_failure_keeps_fusion.diff`; before it the failing run reported `q_fusion_used = false`
while keeping the fused order — failing input in `corpus/C20`.) -/
theorem C20_quality_mmr_fail_eq_off (g : QSite → Bool) (c : QCfg) (e : QEnv) (r : List Nat)
    (hf1 : ∀ l, ∃ x, e.mmr l = .error x) (hf2 : ∀ l, ∃ x, e.mmrFallback l = .error x)
    (hg1 : g .mmr = true) (hg2 : g .mmrFallback = true) :
    applyQuality g c e r = applyQuality g { c with mmrOn := false } e r := by
  refine applyQuality_congr rfl (fun l => ?_) (fallbackStep_fail_eq_off c hf2 hg2) rfl
  unfold fusionStep
  cases c.qualityOn with
  | false => rfl
  | true =>
    cases hfu : e.fuse l with
    | error x => rfl
    | ok fused =>
      obtain ⟨x, hx⟩ := hf1 fused
      dsimp only
      rw [hx]
      cases c.mmrOn with
      | false => rfl
      | true => exact if_pos hg1

end quality

end Clem.Props.C20
