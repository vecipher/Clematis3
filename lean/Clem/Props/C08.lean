import Clem.Proofs.Atomic
import Clem.Gen.AtomicCallers

/-!
# C08 — Durable files are replaced all-or-nothing

Property theorems only (helper lemmas live in `Clem/Proofs/Atomic.lean`).  Every theorem is about
the executable definitions in `Clem/Model/Atomic.lean` that the driver runs against the real
`clematis.io.atomic`.  `σ` ranges over ALL fault scripts (arbitrary length: any number of I/O
errors, transient failures, short writes, and a crash at any step boundary); `retries` is any
positive retry bound (the code uses 80).  `awb true` is the *repaired* `atomic_write_bytes`
(proposed_fixes/C08_short_write.diff, in the repository as 58834db); the pinned tree's single unchecked `f.write` (`awb false`)
violates the property — see `C08_unrepaired_short_write_violates`.
-/

namespace Clem.Atomic
open Clem.Gen.AtomicCallers

/-- **All-or-nothing.** Whatever fails or wherever the process dies, the destination ends up with
the complete previous content or the complete new content. -/
theorem C08_all_or_nothing (retries : Nat) (hr : 0 < retries) (dest r : Name) (data : Bytes)
    (fs : Dir) (σ : List Outcome) :
    getF (awb true retries dest r data fs σ).fs dest = getF fs dest ∨
    getF (awb true retries dest r data fs σ).fs dest = some data :=
  (awb_G false retries hr dest r data fs σ nofun).safe.dest (tmpName_ne dest r)

example : getF (awb true 80 [1] [2] [7, 8] [([1], [5])] [.ok, .ok, .ok, .short 1, .err 28]).fs [1] = some [5] := by
  decide +kernel
example : getF (awb true 80 [1] [2] [7, 8] [([1], [5])] [.ok, .ok, .ok, .short 1]).fs [1] = some [7, 8] := by
  decide +kernel

/-- **Concurrent reader.** At every step boundary of the run (every instant a concurrent reader
could look) and at the end, the destination is the complete old or the complete new content:
the destination changes only in the atomic rename step. -/
theorem C08_reader (retries : Nat) (hr : 0 < retries) (dest r : Name) (data : Bytes)
    (fs : Dir) (σ : List Outcome) :
    ∀ d ∈ (awb true retries dest r data fs σ).hist ++ [(awb true retries dest r data fs σ).fs],
      getF d dest = getF fs dest ∨ getF d dest = some data :=
  fun _ hd => ((awb_G false retries hr dest r data fs σ nofun).safe_of_mem hd).dest (tmpName_ne dest r)

/-- The same statement as the monitor `readerB` that the harness evaluates on the implementation. -/
theorem C08_reader_monitor (retries : Nat) (hr : 0 < retries) (dest r : Name) (data : Bytes)
    (fs : Dir) (σ : List Outcome) :
    readerB (getF fs dest) data
      (((awb true retries dest r data fs σ).hist ++ [(awb true retries dest r data fs σ).fs]).map
        (fun d => getF d dest)) = true := by
  simp only [readerB, List.all_eq_true, List.mem_map]
  rintro x ⟨d, hd, rfl⟩
  simpa [aonB] using C08_reader retries hr dest r data fs σ d hd

/-- **New iff replaced.** The destination holds the new content exactly when some `os.replace`
step succeeded; otherwise it is untouched. -/
theorem C08_new_iff_replaced (retries : Nat) (hr : 0 < retries) (dest r : Name) (data : Bytes)
    (fs : Dir) (σ : List Outcome) :
    ((Step.replace, Outcome.ok) ∈ (awb true retries dest r data fs σ).trace →
      getF (awb true retries dest r data fs σ).fs dest = some data) ∧
    ((Step.replace, Outcome.ok) ∉ (awb true retries dest r data fs σ).trace →
      getF (awb true retries dest r data fs σ).fs dest = getF fs dest) := by
  have g := awb_G false retries hr dest r data fs σ nofun
  exact ⟨fun h => (g.repl (Or.inr h)).2.1, fun h => g.norepl rfl h dest (tmpName_ne dest r).symm⟩

/-- **A normal return means the complete new content is installed** (and the temp is gone). -/
theorem C08_returned_means_new (retries : Nat) (hr : 0 < retries) (dest r : Name) (data : Bytes)
    (fs : Dir) (σ : List Outcome) (h : (awb true retries dest r data fs σ).status = .returned) :
    getF (awb true retries dest r data fs σ).fs dest = some data ∧
    getF (awb true retries dest r data fs σ).fs (tmpName dest r) = none :=
  ((awb_G false retries hr dest r data fs σ nofun).ret h).2

example : (awb true 80 [1] [2] [7, 8] [([1], [5])] []).status = .returned := by decide +kernel

/-- **A raised error means nothing was replaced.** -/
theorem C08_raised_means_old (retries : Nat) (hr : 0 < retries) (dest r : Name) (data : Bytes)
    (fs : Dir) (σ : List Outcome) (h : (awb true retries dest r data fs σ).status = .raised) :
    getF (awb true retries dest r data fs σ).fs dest = getF fs dest :=
  ((awb_G false retries hr dest r data fs σ nofun).rai h).2 dest (tmpName_ne dest r).symm

example : (awb true 80 [1] [2] [7, 8] [([1], [5])] [.ok, .ok, .ok, .ok, .ok, .err 5]).status = .raised := by
  decide +kernel

/-- **Frame.** No directory entry other than the destination and the call's own temp file is
ever created, changed or removed — at any instant. -/
theorem C08_frame (retries : Nat) (hr : 0 < retries) (dest r : Name) (data : Bytes)
    (fs : Dir) (σ : List Outcome) (n : Name) (h1 : n ≠ dest) (h2 : n ≠ tmpName dest r) :
    ∀ d ∈ (awb true retries dest r data fs σ).hist ++ [(awb true retries dest r data fs σ).fs],
      getF d n = getF fs n :=
  fun _ hd => ((awb_G false retries hr dest r data fs σ nofun).safe_of_mem hd).elim (fun a => a n h2)
    fun b => b.1 n h2 h1

/-- **No temp left on error.** If the call raises and its own `exists`/`unlink` calls worked, the
directory is exactly what it was before the call (temp name fresh, as `tempfile` guarantees). -/
theorem C08_no_temp_on_error (retries : Nat) (hr : 0 < retries) (dest r : Name) (data : Bytes)
    (fs : Dir) (σ : List Outcome) (hfresh : getF fs (tmpName dest r) = none)
    (h : (awb true retries dest r data fs σ).status = .raised)
    (hw : cleanupWorked (awb true retries dest r data fs σ).trace = true) :
    ∀ n, getF (awb true retries dest r data fs σ).fs n = getF fs n := by
  have g := awb_G true retries hr dest r data fs σ (fun _ => hfresh)
  intro n
  by_cases hn : n = tmpName dest r
  · subst hn; rw [g.clean h rfl hw, hfresh]
  · exact (g.rai h).2 n hn

example : (awb true 80 [1] [2] [7, 8] [([1], [5])] [.ok, .ok, .ok, .ok, .ok, .err 5]).status = .raised ∧
    cleanupWorked (awb true 80 [1] [2] [7, 8] [([1], [5])] [.ok, .ok, .ok, .ok, .ok, .err 5]).trace = true ∧
    (awb true 80 [1] [2] [7, 8] [([1], [5])] [.ok, .ok, .ok, .ok, .ok, .err 5]).fs = [([1], [5])] := by decide +kernel
-- when the unlink itself fails the temp stays (the hypothesis is needed)
example : (awb true 80 [1] [2] [7, 8] [([1], [5])] [.ok, .ok, .ok, .ok, .ok, .err 5, .ok, .ok, .err 13]).status = .raised ∧
    getF (awb true 80 [1] [2] [7, 8] [([1], [5])] [.ok, .ok, .ok, .ok, .ok, .err 5, .ok, .ok, .err 13]).fs [1, 46, 2] = some [7, 8] := by
  decide +kernel

/-- The monitor `noTempB` (names only) holds of every model run with a fresh temp name. -/
theorem C08_no_temp_monitor (retries : Nat) (hr : 0 < retries) (dest r : Name) (data : Bytes)
    (fs : Dir) (σ : List Outcome) (hfresh : getF fs (tmpName dest r) = none) :
    noTempB (awb true retries dest r data fs σ).status (awb true retries dest r data fs σ).trace
      (keys fs) dest (keys (awb true retries dest r data fs σ).fs) = true := by
  have g := awb_G true retries hr dest r data fs σ (fun _ => hfresh)
  refine noTempB_of fun hc hrw n hn hd => ?_
  rw [mem_keys_iff] at hn ⊢
  cases hst : (awb true retries dest r data fs σ).status with
  | crashed => exact absurd hst hc
  | returned =>
    have hb := g.ret hst
    rw [← hb.1 n (fun ht => hn (ht ▸ hb.2.2)) hd]; exact hn
  | raised =>
    rw [← C08_no_temp_on_error retries hr dest r data fs σ hfresh hst
      (Decidable.by_contra fun hx => hrw ⟨hst, hx⟩) n]
    exact hn

/-- **After a crash the only possible stray entry is the temp file**: every other name (≠ dest)
present afterwards was present before. -/
theorem C08_crash_leftover_only_temp (retries : Nat) (hr : 0 < retries) (dest r : Name)
    (data : Bytes) (fs : Dir) (σ : List Outcome) (n : Name)
    (hn : n ∈ keys (awb true retries dest r data fs σ).fs) :
    n = dest ∨ n = tmpName dest r ∨ n ∈ keys fs := by
  refine (Decidable.em (n = dest)).imp_right fun h1 =>
    (Decidable.em (n = tmpName dest r)).imp_right fun h2 => ?_
  rw [mem_keys_iff] at hn ⊢
  rwa [← C08_frame retries hr dest r data fs σ n h1 h2 _
    (List.mem_append_right _ (List.mem_singleton_self _))]

example : keys (awb true 80 [1] [2] [7, 8] [([1], [5])] [.ok, .ok, .ok, .ok, .crash]).fs = [[1, 46, 2], [1]] := by
  decide +kernel

/-! ## Temp names can never be mistaken for real data -/

/-- A leftover temp `dest.r` (`r` drawn from `tempfile`'s alphabet, of `tempfile`'s length — both
read from the interpreter into the generated table) has the temp shape and matches NONE of the
file-name patterns that snapshot discovery, sidecar lookup, log readers and rotation use
(generated from the sources: `.json`, `.json.zst`, `.jsonl`, `.meta`, `.1`, …). -/
theorem C08_temp_name_harmless (dest r : Name) (hr : ∀ c ∈ r, c ∈ tempChars)
    (hl : r.length = tempLen) :
    harmlessB discoverySuffixes dest (tmpName dest r) = true ∧ tempShapeB dest (tmpName dest r) = true := by
  have hdot : 46 ∉ r := fun h => absurd (hr 46 h) (by decide +kernel)
  have hl8 : r.length = 8 := hl
  constructor
  · simp only [harmlessB, Bool.and_eq_true, List.all_eq_true, Bool.not_eq_true', decide_eq_true_eq]
    refine ⟨tmpName_ne dest r, ?_⟩
    intro s hs
    have hseg : ∃ b, lastSeg s = some b ∧ b.length ≠ 8 := by
      revert s; decide +kernel
    obtain ⟨b, hb, hlen⟩ := hseg
    cases he : endsWithB (tmpName dest r) s with
    | false => rfl
    | true =>
      have := tmp_endsWith_lastSeg dest r s b hdot hb he
      subst this
      exact absurd hl8 hlen
  · simp [tempShapeB, tmpName, lastSeg_append_dot dest r hdot, hl8]

example : harmlessB discoverySuffixes [115, 46, 106, 115, 111, 110]
    (tmpName [115, 46, 106, 115, 111, 110] [97, 98, 99, 100, 49, 50, 51, 95]) = true := by decide +kernel
-- a name that *would* be picked up is rejected by the monitor (it is not vacuous)
example : harmlessB discoverySuffixes [115] [115, 46, 106, 115, 111, 110] = false := by decide +kernel

/-- A temp of any file is never a rotation generation `path.k` (`f"{path}.{k}"` in
`rotate_logs.py`) of any path for `k < 10⁷` (the script keeps `backups` = 5 by default). -/
theorem C08_temp_not_rotation_generation (dest r p : Name) (k : Nat) (hr : 46 ∉ r)
    (hl : r.length = 8) (hk : k < 10 ^ 7) : tmpName dest r ≠ p ++ 46 :: dec k := by
  intro h
  have h1 := lastSeg_append_dot dest r hr
  rw [← tmpName, h, lastSeg_append_dot p (dec k) (decFuel_nodot _ _)] at h1
  have := decFuel_length (k + 1) 6 k hk
  rw [← dec, Option.some.inj h1, hl] at this
  exact absurd this (by decide)

example : dec 5 = [53] ∧ dec 120 = [49, 50, 48] := by decide +kernel
example : tmpName [116] [49, 50, 51, 52, 53, 54, 55, 56] = [116] ++ 46 :: dec 12345678 := by decide +kernel

/-- **Transient failures then success.** Fewer than `n` retryable failures
(EACCES / EPERM / EBUSY / PermissionError) followed by a success: the rename happens, the call
does not raise (returns, if nothing else is scripted), after exactly `errs.length + 1` attempts —
for any `n`, any number of failures, any continuation of the script. -/
theorem C08_retry_transient (kRaise : Dir → List Outcome → Res) (tmp dest : Name)
    (errs : List Nat) (hre : ∀ c ∈ errs, retryable c = true)
    (n : Nat) (last : Option Nat) (fs : Dir) (rest : List Outcome) (c0 : Bytes)
    (hn : errs.length < n) (ht : getF fs tmp = some c0) :
    (replaceLoop kRaise tmp dest n last fs (errs.map Outcome.err ++ Outcome.ok :: rest)).fs
        = renameF fs tmp dest ∧
    (replaceLoop kRaise tmp dest n last fs (errs.map Outcome.err ++ Outcome.ok :: rest)).status
        ≠ .raised ∧
    (rest = [] →
      (replaceLoop kRaise tmp dest n last fs (errs.map Outcome.err ++ Outcome.ok :: rest)).status
        = .returned) ∧
    attempts (replaceLoop kRaise tmp dest n last fs (errs.map Outcome.err ++ Outcome.ok :: rest)).trace
        = errs.length + 1 := by
  induction errs generalizing n last with
  | nil =>
    obtain ⟨m, rfl⟩ := Nat.exists_eq_succ_of_ne_zero (Nat.ne_of_gt (Nat.zero_lt_of_lt hn))
    have hk := afterReplace_Keeps (renameF fs tmp dest) rest
    simp only [List.map_nil, List.nil_append, replaceLoop_ok _ _ _ _ _ _ _ ht, pre_fs, pre_status,
      pre_trace, attempts_cons_replace, List.length_nil, hk.2.2]
    exact ⟨hk.1, hk.2.1, fun hr => hr ▸ rfl, trivial⟩
  | cons c errs ih =>
    obtain ⟨m, rfl⟩ := Nat.exists_eq_succ_of_ne_zero (Nat.ne_of_gt (Nat.zero_lt_of_lt hn))
    simpa only [List.map_cons, List.cons_append,
      replaceLoop_retry _ _ _ _ _ _ _ _ (hre c (List.mem_cons_self ..)), pre_fs, pre_status,
      pre_trace, attempts_cons_replace, List.length_cons, Nat.add_right_cancel_iff] using
      ih (fun c' h' => hre c' (List.mem_cons_of_mem _ h')) m (some c) (Nat.lt_of_succ_lt_succ hn)

example : retryable EACCES = true ∧ retryable EPERM = true ∧ retryable EBUSY = true ∧
    retryable EIO = false ∧ retryable 28 = false := by decide +kernel

/-- **A non-retryable failure is not retried**: the very next thing is the cleanup code, and the
cleanup code never attempts another replace. -/
theorem C08_nonretryable_stops (tmp dest : Name) (n : Nat) (last : Option Nat) (fs : Dir) (c : Nat)
    (rest : List Outcome) (h : retryable c = false) :
    replaceLoop (cleanup tmp) tmp dest (n + 1) last fs (Outcome.err c :: rest)
      = pre fs .replace (.err c) (postLoop (cleanup tmp) tmp (some c) fs rest) ∧
    attempts (replaceLoop (cleanup tmp) tmp dest (n + 1) last fs (Outcome.err c :: rest)).trace = 1 := by
  have h1 := replaceLoop_nonretryable (cleanup tmp) tmp dest n last fs c rest h
  refine ⟨h1, ?_⟩
  rw [h1, pre_trace, attempts_cons_replace, postLoop_cleanup_norep]

/-- **Bounded retry**: for ANY script at most `n` replace attempts are made. -/
theorem C08_attempts_bounded (tmp dest : Name) (n : Nat) (last : Option Nat) (fs : Dir)
    (σ : List Outcome) : attempts (replaceLoop (cleanup tmp) tmp dest n last fs σ).trace ≤ n :=
  (replaceLoop_RQ tmp dest n last fs σ).2

/-- **Retry discipline of the whole call, for every script**: the monitor `retryB` that the harness
evaluates on the implementation's trace (a transient `replace` failure that is not the last
permitted attempt is followed by another attempt) holds, and the call never makes more than
`retries` replace attempts. -/
theorem C08_retry_discipline (retries : Nat) (dest r : Name) (data : Bytes) (fs : Dir)
    (σ : List Outcome) :
    retryB retries (awb true retries dest r data fs σ).trace = true ∧
    attempts (awb true retries dest r data fs σ).trace ≤ retries :=
  awb_RQ retries dest r data fs σ

/-- **Stand-alone `atomic_replace(src, dst, retries=n)`** with its default `unlink_on_failure=True`
(`scripts/rotate_logs.py` passes `False`: `Model/LogRotate.lean`), for EVERY `n` (0 included) and
every script: at every instant the target holds its old content or the complete content of the source. -/
theorem C08_replace_alone_all_or_nothing (retries : Nat) (src dst : Name) (hne : src ≠ dst) (fs : Dir)
    (σ : List Outcome) :
    ∀ d ∈ (atomicReplaceAlone retries src dst fs σ).hist ++ [(atomicReplaceAlone retries src dst fs σ).fs],
      getF d dst = getF fs dst ∨ getF d dst = getF fs src := by
  have h := atomicReplaceAlone_AllIn retries src dst fs σ
  intro d hd
  simp at hd
  rcases hd with hd | rfl
  · exact ReplStates_dst hne (h.1 d hd)
  · exact ReplStates_dst hne h.2

example : (atomicReplaceAlone 0 [1] [2] [([1], [7]), ([2], [5])] []).status = .returned ∧
    (atomicReplaceAlone 0 [1] [2] [([1], [7]), ([2], [5])] []).fs = [([2], [5])] := by decide +kernel
example : (atomicReplaceAlone 2 [1] [2] [([1], [7]), ([2], [5])] [.ok, .err 13]).fs = [([2], [7])] := by decide +kernel

/-- Whole call: 79 transient failures then success ⇒ returned with the new content; 80 ⇒ raised,
old content, no temp (concrete instances of `C08_retry_transient` and `C08_attempts_bounded`
through the whole program). -/
theorem C08_retry_boundary_instances :
    (awb true 80 [1] [2] [7, 8] [([1], [5])]
        (List.replicate 10 .ok ++ List.replicate 79 (.err 13))).status = .returned ∧
    getF (awb true 80 [1] [2] [7, 8] [([1], [5])]
        (List.replicate 10 .ok ++ List.replicate 79 (.err 13))).fs [1] = some [7, 8] ∧
    (awb true 80 [1] [2] [7, 8] [([1], [5])]
        (List.replicate 10 .ok ++ List.replicate 80 (.err 16))).status = .raised ∧
    (awb true 80 [1] [2] [7, 8] [([1], [5])]
        (List.replicate 10 .ok ++ List.replicate 80 (.err 16))).fs = [([1], [5])] := by
  decide +kernel

/-! ## Wrappers: a content failure happens before any temp exists -/

/-- **Serialise before temp.** When turning the value into bytes fails (at the start, in the
middle or at the end of the document: any `k`), the wrapper raises without having executed a
single FS step: empty trace, no instant at which a reader could see anything else, directory
literally unchanged — so no temp can be left behind and the destination is untouched. -/
theorem C08_serialise_before_temp (loopW : Bool) (retries : Nat) (dest r : Name) (k : Nat) (fs : Dir)
    (σ : List Outcome) :
    (writeSerialised loopW retries dest r (.contentFail k) fs σ).status = .raised ∧
    (writeSerialised loopW retries dest r (.contentFail k) fs σ).trace = [] ∧
    (writeSerialised loopW retries dest r (.contentFail k) fs σ).hist = [] ∧
    (writeSerialised loopW retries dest r (.contentFail k) fs σ).fs = fs := by
  simp [writeSerialised]

/-- **No temp left for every way the wrapper can fail** (content failure or any scripted I/O
failure whose own `exists`/`unlink` calls worked): a raise leaves the directory exactly as it was;
and the `noTempB` monitor holds of every run. -/
theorem C08_wrapper_no_temp_on_any_failure (retries : Nat) (hr : 0 < retries) (dest r : Name) (s : Ser)
    (fs : Dir) (σ : List Outcome) (hfresh : getF fs (tmpName dest r) = none)
    (h : (writeSerialised true retries dest r s fs σ).status = .raised)
    (hw : cleanupWorked (writeSerialised true retries dest r s fs σ).trace = true) :
    ∀ n, getF (writeSerialised true retries dest r s fs σ).fs n = getF fs n := by
  cases s with
  | contentFail k => exact fun _ => rfl
  | done data => exact C08_no_temp_on_error retries hr dest r data fs σ hfresh h hw

theorem C08_wrapper_no_temp_monitor (retries : Nat) (hr : 0 < retries) (dest r : Name) (s : Ser)
    (fs : Dir) (σ : List Outcome) (hfresh : getF fs (tmpName dest r) = none) :
    noTempB (writeSerialised true retries dest r s fs σ).status (writeSerialised true retries dest r s fs σ).trace
      (keys fs) dest (keys (writeSerialised true retries dest r s fs σ).fs) = true := by
  cases s with
  | contentFail k => exact noTempB_of fun _ _ _ hn _ => hn
  | done data => exact C08_no_temp_monitor retries hr dest r data fs σ hfresh

/-- The wrapper is all-or-nothing at every instant for every serialisation outcome and script. -/
theorem C08_wrapper_reader (retries : Nat) (hr : 0 < retries) (dest r : Name) (s : Ser) (fs : Dir)
    (σ : List Outcome) :
    ∀ d ∈ (writeSerialised true retries dest r s fs σ).hist ++ [(writeSerialised true retries dest r s fs σ).fs],
      getF d dest = getF fs dest ∨ ∃ data, s = .done data ∧ getF d dest = some data := by
  cases s with
  | contentFail k => exact fun d hd => List.mem_singleton.1 hd ▸ Or.inl rfl
  | done data =>
    exact fun d hd => (C08_reader retries hr dest r data fs σ d hd).imp_right fun h => ⟨data, rfl, h⟩

example : (writeSerialised true 80 [1] [2] (.contentFail 27000) [([1], [5])] [.ok, .crash]).fs = [([1], [5])] := by decide +kernel
example : (writeSerialised true 80 [1] [2] (.done [7]) [([1], [5])] []).fs = [([1], [7])] := by decide +kernel

/-! ## Callers: body + best-effort sidecar (`_write_lines`, `write_snapshot`) -/

/-- **Body and sidecar are each all-or-nothing at every instant** of a body-then-sidecar write,
for every script (`r1` is the 8-character temp suffix, so it is not the 4 characters `meta`). -/
theorem C08_sidecar_each_all_or_nothing (retries : Nat) (hr : 0 < retries) (dest r1 r2 : Name)
    (data mdata : Bytes) (fs : Dir) (σ : List Outcome) (hr1 : r1 ≠ [109, 101, 116, 97]) :
    ∀ d ∈ (withSidecar retries dest r1 r2 data mdata fs σ).hist ++
          [(withSidecar retries dest r1 r2 data mdata fs σ).fs],
      (getF d dest = getF fs dest ∨ getF d dest = some data) ∧
      (getF d (dest ++ metaSuffix) = getF fs (dest ++ metaSuffix) ∨
        getF d (dest ++ metaSuffix) = some mdata) := by
  have hA : ∀ d ∈ (awb true retries dest r1 data fs σ).hist ++ [(awb true retries dest r1 data fs σ).fs],
      (getF d dest = getF fs dest ∨ getF d dest = some data) ∧
      getF d (dest ++ metaSuffix) = getF fs (dest ++ metaSuffix) := fun d hd =>
    ⟨C08_reader retries hr dest r1 data fs σ d hd,
     C08_frame retries hr dest r1 data fs σ _ (tmpName_ne dest _) (meta_ne_tmp dest r1 hr1) d hd⟩
  intro d hd
  unfold withSidecar withSidecarL at hd
  -- from here on the body run is any run with the property `hA`
  generalize awb true retries dest r1 data fs σ = a at hA hd
  by_cases hs : a.status = .returned
  · simp only [if_pos hs, swallow_hist, swallow_fs, List.append_assoc] at hd
    rw [List.mem_append] at hd
    rcases hd with hd | hd
    · exact ⟨(hA d (List.mem_append_left _ hd)).1, Or.inl (hA d (List.mem_append_left _ hd)).2⟩
    · have hfs := hA _ (List.mem_append_right _ (List.mem_singleton_self _))
      have hm := C08_reader retries hr (dest ++ metaSuffix) r2 mdata a.fs _ d hd
      rw [hfs.2] at hm
      rw [C08_frame retries hr (dest ++ metaSuffix) r2 mdata a.fs _ dest (tmpName_ne dest _).symm
        (ne_tmp_of_meta dest r2) d hd]
      exact ⟨hfs.1, hm⟩
  · rw [if_neg hs] at hd
    exact ⟨(hA d hd).1, Or.inl (hA d hd).2⟩

/-- **A sidecar failure never breaks the snapshot write**: once the body call returned, the
combined call does not raise and the body holds the complete new content, whatever happens to
the sidecar (error or crash at any step). -/
theorem C08_sidecar_never_breaks_body (retries : Nat) (hr : 0 < retries) (dest r1 r2 : Name)
    (data mdata : Bytes) (fs : Dir) (σ : List Outcome)
    (h : (awb true retries dest r1 data fs σ).status = .returned) :
    (withSidecar retries dest r1 r2 data mdata fs σ).status ≠ .raised ∧
    getF (withSidecar retries dest r1 r2 data mdata fs σ).fs dest = some data := by
  have hnew := (C08_returned_means_new retries hr dest r1 data fs σ h).1
  unfold withSidecar withSidecarL
  generalize awb true retries dest r1 data fs σ = a at h hnew
  rw [if_pos h, swallow_fs]
  exact ⟨swallow_status_ne _, (C08_frame retries hr (dest ++ metaSuffix) r2 mdata a.fs _ dest
    (tmpName_ne dest _).symm (ne_tmp_of_meta dest r2) _
    (List.mem_append_right _ (List.mem_singleton_self _))).trans hnew⟩

/-- A failed or crashed body write is the whole story: the sidecar is not attempted. -/
theorem C08_sidecar_body_failure_propagates (retries : Nat) (dest r1 r2 : Name)
    (data mdata : Bytes) (fs : Dir) (σ : List Outcome)
    (h : (awb true retries dest r1 data fs σ).status ≠ .returned) :
    withSidecar retries dest r1 r2 data mdata fs σ = awb true retries dest r1 data fs σ :=
  if_neg h

example : (withSidecar 80 [1] [2] [3] [7] [9] [] (List.replicate 17 .ok ++ [.ok, .ok, .err 5])).status = .returned ∧
    getF (withSidecar 80 [1] [2] [3] [7] [9] [] (List.replicate 17 .ok ++ [.ok, .ok, .err 5])).fs [1] = some [7] ∧
    getF (withSidecar 80 [1] [2] [3] [7] [9] [] (List.replicate 17 .ok ++ [.ok, .ok, .err 5])).fs ([1] ++ metaSuffix) = none := by
  decide +kernel

/-! ## Callers and constants: generated from the sources, re-checked on every run -/

/-- Every file-writing call site of the durable-file modules (`engine/snapshot.py`, `io/log.py`)
goes through the atomic helper, or is the append-mode log append (C16); the four callers named
by the property (`write_snapshot`, `_write_lines`, `_write_sidecar_meta`, `rewrite_jsonl`) each
write, and write only, through the helper. -/
theorem C08_callers_via_atomic :
    (∀ s ∈ sites, s.kind = 0 ∨ s.kind = 1) ∧ (∀ c ∈ namedCallers, c = (true, true)) ∧
    namedCallers.length = 4 := by
  decide +kernel

/-- The constants of the model are the constants of the code: 80 retries by default (and
`atomic_write_bytes` does not override them), the retryable errno set is exactly
{EPERM, EACCES, EBUSY}, `PermissionError` is retried, and `_make_tmp` creates the temp in the
destination's directory with prefix `final.name + "."` (so rename never crosses a filesystem). -/
theorem C08_constants_match_code :
    retriesDefault = 80 ∧ awbUsesDefaultRetries = true ∧ permissionErrorRetried = true ∧
    tmpInSameDirWithDotPrefix = true ∧
    (∀ c < 200, retryable c = decide (c ∈ retryErrnos)) ∧ (46 ∉ tempChars) ∧ tempLen = 8 :=
  ⟨rfl, rfl, rfl, rfl, fun c _ => retryable_eq_mem_retryErrnos c, by decide +kernel, rfl⟩

/-! ## The pinned tree violates the property (negation witness) -/

/-- Full statement (holds of the repaired code: `C08_returned_means_new`, `C08_all_or_nothing`):
a normal return installs the complete new content.  The pinned tree's single unchecked raw
`f.write(data)` does NOT satisfy it: a short write (ENOSPC, RLIMIT_FSIZE) of 1 of 2 bytes is
followed by a successful rename and a normal return — the destination holds a truncated file
that is neither the old nor the new content. -/
theorem C08_unrepaired_short_write_violates :
    (awb false 80 [1] [2] [7, 8] [([1], [5])] [.ok, .ok, .ok, .short 1]).status = .returned ∧
    getF (awb false 80 [1] [2] [7, 8] [([1], [5])] [.ok, .ok, .ok, .short 1]).fs [1] = some [7] ∧
    ¬ (getF (awb false 80 [1] [2] [7, 8] [([1], [5])] [.ok, .ok, .ok, .short 1]).fs [1] = some [5] ∨
       getF (awb false 80 [1] [2] [7, 8] [([1], [5])] [.ok, .ok, .ok, .short 1]).fs [1] = some [7, 8]) := by
  decide +kernel

/-- What the pinned tree does satisfy on the same witness: the destination holds a *prefix* of the
new content (the weaker `_partial` form of the property; only this instance is proved). -/
theorem C08_all_or_nothing_partial_unrepaired_witness :
    (getF (awb false 80 [1] [2] [7, 8] [([1], [5])] [.ok, .ok, .ok, .short 1]).fs [1]).getD [] <+: [7, 8] := by
  decide +kernel

end Clem.Atomic
