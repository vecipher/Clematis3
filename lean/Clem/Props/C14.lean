import Clem.Proofs.Valid
import Clem.Gen.ValidRules
import Clem.Model.ValidTop

/-!
# C14 — Config validation is total, pure, consistent, and admits only runnable configs

Property theorems only.  `Clem.Gen.ValidRules` is regenerated from the AST of
`configs/validate.py` on every check, so every statement below that mentions `rules`,
`suggestSorted`, `suggestStrWrap`, `hashOrderSites`, `defaults` is re-checked by the kernel
against what the code says now.  `env cfg` is the model's view of an arbitrary input.

Clauses and where they are decided:
* ranges/enumerations (accepted ⇒ documented range; rejected ⇒ outside it): `C14_ranges_*`,
  `C14_guards_exact*`, `C14_enum_*` — theorems over the table, for all inputs;
* hash-order independence of messages: `C14_suggest_*`, `C14_unknown_key_messages_*`, `C14_no_set_formatting`;
* only `ConfigError` / accept (key types): `C14_total_*` (model level; the imperative code is sampled);
* API/CLI agreement: `C14_api_*`, `C14_cli_*`;
* defaults accepted: `C14_defaults_accepted`;
* purity and "runnable": correspondence only (see CLAIM note in harness/props/c14.py).
-/

namespace Clem.Valid
open Clem.Gen Clem.Py

/-- Table check: every numeric rule's guard entails its documented range for every value its
coercion can produce (NaN-aware), and every branch of its value expression ends in that coercion. -/
theorem C14_ranges_table :
    (numRules ValidRules.rules).all (fun r => entails r.co r.guard r.doc && r.val.allCo r.co) = true := by
  decide +kernel

/-- **accepted ⇒ documented range**, for every input and every numeric rule of the current code:
if the rule is active and its guard does not fire, the coerced value satisfies the range the
message documents — including NaN/±inf inputs. -/
theorem C14_ranges_sound (cfg : J) (r : NumRule) (hr : r ∈ numRules ValidRules.rules) :
    r.rangeOk (env cfg) = true := by
  have h := Bool.and_eq_true _ _ |>.mp (List.all_eq_true.mp C14_ranges_table r hr)
  unfold NumRule.rangeOk
  cases hg : r.guard.eval (r.value (env cfg))
  · rw [entails_sound r.co r.guard r.doc (r.value (env cfg)) h.1 (NE_eval_range _ r.co r.val h.2) hg, Bool.or_true]
  · rw [Bool.or_true, Bool.true_or]

/-- No ranged leaf is written again after its range check (no alias folded in afterwards, no
fallback assignment): the value returned at a rule's canonical path is the value that was checked.
Structural fact recomputed from the AST: the translator flags every assignment to a checked cell. -/
theorem C14_no_write_after_check :
    (numRules ValidRules.rules).all (fun r => !r.rewritten && r.final.isNone) = true := by
  decide +kernel

/-- **accepted ⇒ every NORMALISED leaf with a documented range lies in it**: for every input and
every numeric rule, if the rule is active and does not fire, the value the normalised config holds
at the rule's canonical output path (`r.out`, aliases such as `ttl_s`/`ttl_sec` folded in) satisfies
the documented range.  The harness evaluates the same predicate on the config the real validator
returns (`NumRule.outOk`). -/
theorem C14_ranges_sound_normalised (cfg : J) (r : NumRule) (hr : r ∈ numRules ValidRules.rules) :
    r.outRangeOk (env cfg) = true := by
  have h := Bool.and_eq_true _ _ |>.mp (List.all_eq_true.mp C14_no_write_after_check r hr)
  unfold NumRule.outRangeOk NumRule.outValue
  rw [Option.isNone_iff_eq_none.mp h.2]
  exact C14_ranges_sound cfg r hr

/-- Non-vacuity: the table does carry alias rules (`ttl_s`/`ttl_sec` of the caches). -/
example : ((numRules ValidRules.rules).filter (fun r => !r.aliases.isEmpty)).length ≥ 1 := by decide +kernel

/-- Why the output form matters: a rule that checks the canonical key and folds the alias in
afterwards accepts a value it never checked — the checked value is in range, the returned one is not. -/
example : (Doc.ge 0).holds (.int 600) = true ∧ (Doc.ge 0).holds (.int (-5)) = false := by decide +kernel

/-- Generic form: a guard that passes the syntactic check is sound for all values. -/
theorem C14_ranges_generic (co : Co) (g : Gd) (d : Doc) (v : Num)
    (h : entails co g d = true) (hr : co.range v = true) (hg : g.eval v = false) :
    d.holds v = true := entails_sound co g d v h hr hg

/-- Why the check is needed (and what the unrepaired guards did): `if v <= 0: err` on a
float-coerced field lets NaN through although "must be > 0" is documented … -/
theorem C14_ranges_nan_witness_unrepaired :
    (Gd.le 0).eval .nan = false ∧ (Doc.gt 0).holds .nan = false ∧ Co.float.range .nan = true
      ∧ entails .float (Gd.le 0) (Doc.gt 0) = false := by decide +kernel

/-- … while the repaired spelling `if not (v > 0): err` rejects it, and `if v < 0` is fine on
int-coerced fields (NaN cannot come out of `_coerce_int`). -/
example : (Gd.not (Gd.gt 0)).eval .nan = true ∧ entails .float (Gd.not (Gd.gt 0)) (Doc.gt 0) = true
    ∧ entails .int (Gd.lt 0) (Doc.ge 0) = true := by decide +kernel

/-- `+inf` satisfies a documented "> 0" literally; it is rejected by every two-sided range. -/
example : (Doc.gt 0).holds .pinf = true ∧ (Doc.between 0 false 1 false).holds .pinf = false := by decide +kernel

/-- The rules of the table with no NaN-safe guard: none on the repaired tree (the first half of
`C14_ranges_table`, as a list of paths). -/
theorem C14_unsafe_rules_none :
    ((numRules ValidRules.rules).filter (fun r => !(entails r.co r.guard r.doc))).map (·.path) = [] := by
  rw [List.map_eq_nil_iff, List.filter_eq_nil_iff]
  intro r hr
  rw [(Bool.and_eq_true _ _ |>.mp (List.all_eq_true.mp C14_ranges_table r hr)).1]
  decide

theorem C14_guards_exact_table :
    (numRules ValidRules.rules).all (fun r => exact r.guard r.doc) = true := by decide +kernel

/-- **rejected ⇒ outside the documented range** for every input and numeric rule: the validator
never reports "must be >= c" about a value that is `>= c`. -/
theorem C14_guards_exact (cfg : J) (r : NumRule) (hr : r ∈ numRules ValidRules.rules) :
    r.rejectOk (env cfg) = true := by
  have h := List.all_eq_true.mp C14_guards_exact_table r hr
  unfold NumRule.rejectOk
  cases hn : r.doc.isNone
  · cases hf : r.fires (env cfg)
    · rfl
    · rw [exact_sound r.guard r.doc _ h hn (Bool.and_eq_true _ _ |>.mp hf).2]; rfl
  · rfl

/-- Non-vacuity: the table has numeric rules, and a concrete input fires one of them. -/
example : (numRules ValidRules.rules).length > 50 := by decide +kernel

/-- Every enumeration rule accepts exactly the members its message documents. -/
theorem C14_enum_docs_match :
    allEnum.all (fun r => r.docAllowed.isEmpty || sameMembers r.docAllowed r.allowed) = true := by
  decide +kernel

/-- An enumeration rule that does not fire has a rendered value inside the allowed set. -/
theorem C14_enum_sound (e : Env) (r : EnumRule) (ha : condsHold e r.conds = true) (hf : r.fires e = false) :
    ∃ s, pyStr r.lower (r.val.eval e) = some s ∧ r.allowed.contains s = true := by
  unfold EnumRule.fires at hf
  rw [ha] at hf
  simp only [Bool.true_and] at hf
  split at hf
  · rename_i s hs
    exact ⟨s, hs, by simpa using hf⟩
  · cases hf

/-- Whenever a rule tests a case-folded copy (`str(x).lower()`), that folded copy is what the code
stores at the rule's output path (structural fact recomputed from the AST: an assignment
`X["<key>"] = <tested expression>` follows the check, or the tested expression is the cell itself). -/
theorem C14_enum_folded_written_back :
    allEnum.all (fun r => !r.lower || r.folded) = true := by decide +kernel

/-- **accepted ⇒ the NORMALISED value at the rule's output path ∈ the documented set**, for every
input and every enumeration check of the current code (typed rules and the checks whose message
formats the value, e.g. `t2.backend`, `t3.backend`).  The harness evaluates `EnumRule.outOk` — the
same membership, plus equality with `normalised` — on the config the real validator returns. -/
theorem C14_enum_sound_normalised (cfg : J) (r : EnumRule) (hr : r ∈ allEnum) :
    r.outRangeOk (env cfg) = true := by
  have hf := List.all_eq_true.mp C14_enum_folded_written_back r hr
  have hlf : (r.lower && r.folded) = r.lower := by
    revert hf; cases r.lower <;> cases r.folded <;> decide
  unfold EnumRule.outRangeOk EnumRule.normalised
  rw [hlf]
  cases ha : condsHold (env cfg) r.conds
  · rfl
  · cases hfire : r.fires (env cfg)
    · obtain ⟨s, hs, hc⟩ := C14_enum_sound (env cfg) r ha hfire
      rw [hs]; exact hc
    · rfl

/-- What the folded-but-not-written-back form does: `LanceDB` passes the test on its lower-cased
copy while the raw spelling — outside the documented set — is what stays in the config. -/
example : (pyStr true (some (.str [76, 97] [108, 97] none none)) = some [108, 97]) ∧
    (pyStr false (some (.str [76, 97] [108, 97] none none)) = some [76, 97]) := by decide +kernel

/-- The Lean monitors the harness evaluates on generated inputs can never fail while the table
theorems hold: for every input, `allRangeOk` and `allRejectOk` are true. -/
theorem C14_monitors_hold (cfg : J) : allRangeOk cfg = true ∧ allRejectOk cfg = true := by
  constructor
  · unfold allRangeOk
    simp only [Bool.and_eq_true]
    exact ⟨List.all_eq_true.mpr (fun r hr => by
      rw [Bool.and_eq_true]
      exact ⟨C14_ranges_sound cfg r hr, C14_ranges_sound_normalised cfg r hr⟩),
      List.all_eq_true.mpr (fun r hr => C14_enum_sound_normalised cfg r hr)⟩
  · exact List.all_eq_true.mpr (fun r hr => C14_guards_exact cfg r hr)

/-- The code iterates `sorted(allowed)` in `_suggest_key` (structural fact read from the AST). -/
theorem C14_suggest_sorted_in_code : ValidRules.suggestSorted = true := by decide +kernel

/-- No message formats an unordered `set`. -/
theorem C14_no_set_formatting : ValidRules.hashOrderSites = [] := by decide +kernel

/-- The suggestion is the same for every iteration order of the allowed-key set. -/
theorem C14_suggest_hash_independent (bad : Str) (σ τ : List Str) (h : σ.Perm τ) :
    suggestKey bad σ = suggestKey bad τ := suggestKey_perm bad h

/-- Hence the unknown-key messages of any rule are the same for every iteration order. -/
theorem C14_unknown_key_messages_hash_independent (e : Env) (r : UnkRule) (σ : List Str)
    (h : σ.Perm r.allowed) : ({ r with allowed := σ } : UnkRule).fire e = r.fire e := by
  simp only [UnkRule.fire, isAllowed_perm h, suggestKey_perm _ h]

/-- Before the repair the loop ran over the raw `set`: first strict minimum in iteration order.
`t5` is equidistant from `t1` and `t2`, so the suggestion depended on `PYTHONHASHSEED`. -/
theorem C14_suggest_raw_order_dependent :
    suggestRaw [116, 53] [[116, 49], [116, 50]] ≠ suggestRaw [116, 53] [[116, 50], [116, 49]] := by
  decide +kernel

example : suggestKey [116, 53] [[116, 50], [116, 49]] = some [116, 49] := by decide +kernel
example : lev [107, 105, 116, 116, 101, 110] [115, 105, 116, 116, 105, 110, 103] = 3 := by decide +kernel

/-- The code hands `str(bad)` to `_lev` (structural fact read from the AST). -/
theorem C14_total_strwrap_in_code : ValidRules.suggestStrWrap = true := by decide +kernel

/-- With that, no `TypeError` escapes from the unknown-key checks for any input, whatever the
key types.  (Model level: the model is total by construction; totality of the imperative code is
sampled by the malformed-input stream.) -/
theorem C14_total_keys (cfg : J) : escapesNow cfg = false := by
  unfold escapesNow
  rw [C14_total_strwrap_in_code]
  unfold escapes
  rw [List.any_eq_false]
  intro r _
  cases r <;> simp [UnkRule.escapes]

/-- Unknown-key checks read the user's mapping (not the merged one). -/
theorem C14_unk_rules_read_raw :
    (unkRules ValidRules.rules).all (fun r => r.loc.src == .raw) = true := by decide +kernel

/-- **Totality on string-keyed (JSON-shaped) inputs, with or without the `str(bad)` repair**: if
every dict key anywhere in the input is a string, no `TypeError` can escape from the key checks. -/
theorem C14_total_string_keys (wrap : Bool) (cfg : J) (h : cfg.strKeys = true) :
    escapes wrap ValidRules.rules (env cfg) = false := by
  unfold escapes
  rw [List.any_eq_false]
  intro r hr
  cases r with
  | unk u =>
    have hraw := List.all_eq_true.mp C14_unk_rules_read_raw u (mem_unkRules hr)
    have hsrc : u.loc.src = .raw := by simpa using hraw
    have hsect : (env cfg).sect u.loc = walk (cfgIn cfg ValidRules.version) u.loc.path := by
      unfold Env.sect
      rw [hsrc]
      rfl
    have hno := strKeysKV_no_other (strKeysKV_walk (strKeysKV_cfgIn h ValidRules.version) u.loc.path)
    simp only [UnkRule.escapes, hsect]
    intro hc
    simp only [Bool.and_eq_true] at hc
    exact absurd (hno.symm.trans hc.2) (by decide)
  | num n => simp
  | enum n => simp

example : (J.dict [(.str [116, 49], .dict [(.str [120], .null)])]).strKeys = true := by decide +kernel

/-- Unrepaired form: a non-string key anywhere an unknown-key check looks escapes as `TypeError`
(`_lev(5, "t1")` → `len(5)`). -/
theorem C14_nonstr_key_escapes_unrepaired :
    escapes false ValidRules.rules (env (.dict [(.other [53], .null)])) = true := by
  decide +kernel

/-- All raising variants are the same function of the error list. -/
theorem C14_api_plain_verbose_agree (errors : List Str) : apiPlain errors = apiVerbose errors := rfl

/-- `validate_config_api` and the compat form return the same messages, say "ok" exactly when the
normaliser accepts, and their messages re-joined are the stripped text of the `ConfigError`. -/
theorem C14_api_agree (strip : Str → Str) (errors : List Str) :
    ((apiTuple strip errors).1 = true ↔ implVerdict errors = .accept)
    ∧ apiCompat strip errors = (apiTuple strip errors).2
    ∧ (∀ t, implVerdict errors = .configError t → (strip t).isEmpty = false →
        joinNl (apiTuple strip errors).2 = strip t) := by
  refine ⟨?_, ?_, ?_⟩
  · unfold apiTuple
    cases h : implVerdict errors <;> simp
  · unfold apiTuple apiCompat
    cases h : implVerdict errors <;> simp
  · intro t ht hne
    unfold apiTuple
    rw [ht]
    simp only [hne]
    exact joinNl_splitNl _

/-- CLI: exit code 0 iff accepted; on rejection the text printed after `CONFIG INVALID` is the
`ConfigError` text. -/
theorem C14_cli_agree (errors : List Str) :
    ((cli errors).1 = 0 ↔ implVerdict errors = .accept)
    ∧ (∀ t, implVerdict errors = .configError t → cli errors = (1, t)) := by
  unfold cli
  cases h : implVerdict errors <;> simp

/-- Accept iff no messages. -/
theorem C14_verdict_iff (errors : List Str) : implVerdict errors = .accept ↔ errors = [] := by
  unfold implVerdict
  cases errors <;> simp

example : apiTuple id [[97], [98]] = (false, [[97], [98]]) := by decide +kernel
example : (cli [[97]]).1 = 1 := by decide +kernel

/-- The empty config (all defaults) produces no message from any typed rule: the defaults satisfy
their own rules. -/
theorem C14_defaults_accepted : messages (.dict []) = [] := by
  decide +kernel

/-- Feeding `DEFAULTS` itself as the user's config is accepted too: every default key is in the
`ALLOWED_*` set of its section and every default value passes its rule (schema/limits consistency). -/
theorem C14_defaults_as_input_accepted : messages (.dict ValidRules.defaults) = [] := by
  decide +kernel

/-- Every `ALLOWED_*` key set of the module is enforced by some unknown-key check. -/
theorem C14_every_key_set_checked :
    ValidRules.allowedKeySets.all (fun s => (unkRules ValidRules.rules).any (fun r => r.allowed == s)) = true := by
  decide +kernel

/-- Every section the code knows (non-empty `DEFAULTS` dicts, sections read by a typed rule) has an
unknown-key check — except the `scheduler` block, which the current code does not check at all
(`scheduler: {polcy: x}` is accepted; recorded as an observation, the property does not forbid it). -/
theorem C14_known_sections_checked :
    ValidRules.knownSections.all (fun p =>
      p.head? == some [115, 99, 104, 101, 100, 117, 108, 101, 114] ||
      (unkRules ValidRules.rules).any (fun r => r.loc.path == p)) = true := by
  decide +kernel

/-- Non-vacuity of the message model: a typo'd top-level key and an out-of-range field. -/
example : messages (.dict [(.str [116, 53], .null)]) =
    [[116, 53, 32, 117, 110, 107, 110, 111, 119, 110, 32, 116, 111, 112, 45, 108, 101, 118, 101, 108, 32, 107, 101, 121,
      32, 40, 100, 105, 100, 32, 121, 111, 117, 32, 109, 101, 97, 110, 32, 39, 116, 49, 39, 41]] := by
  decide +kernel

example : (messages (.dict [(.str [116, 52], .dict [(.str [100, 101, 108, 116, 97, 95, 110, 111, 114, 109, 95, 99, 97, 112, 95, 108, 50],
    .num .nan)])])).length = 1 := by
  decide +kernel

end Clem.Valid
