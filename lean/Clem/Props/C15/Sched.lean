import Clem.Proofs.CacheMerge

/-!
# C15 — lock wrappers: concurrent executions are interleavings of atomic steps

Generic in the container (`σ`, `step`).  `Clem/Props/C15/Wrappers.lean` instantiates these with the
cache models and discharges the structural obligation "every wrapper method runs entirely under the
lock" from the regenerated table.
-/

namespace Clem.Sched

variable {σ α : Type}

/-- **Linearizability.**  With every operation one atomic step, the final states reachable by the
threads are exactly the results of running some interleaving of their operation lists sequentially. -/
theorem C15_sched_linearizable (step : σ → α → σ) (s s' : σ) (ps : List (List α)) :
    (∃ ps', Reach step s ps s' ps' ∧ ∀ p ∈ ps', p = []) ↔
    ∃ m, Interleave ps m ∧ s' = m.foldl step s := by
  constructor
  · rintro ⟨ps', hr, hd⟩
    induction hr with
    | refl => exact ⟨[], Interleave.done hd, rfl⟩
    | head hp _ ih =>
      obtain ⟨m, hm, he⟩ := ih hd
      exact ⟨_ :: m, Interleave.pick hp hm, by simpa using he⟩
  · rintro ⟨m, hm, he⟩
    subst he
    induction hm generalizing s with
    | done hd => exact ⟨_, Reach.refl, hd⟩
    | pick hp _ ih =>
      obtain ⟨ps', hr, hd⟩ := ih (step s _)
      exact ⟨ps', Reach.head hp hr, hd⟩

/-- Every sequential invariant holds at every point of every schedule. -/
theorem C15_sched_invariant_all_schedules (step : σ → α → σ) (P : σ → Prop)
    (hstep : ∀ s a, P s → P (step s a)) {s s' : σ} {ps ps' : List (List α)}
    (h : P s) (hr : Reach step s ps s' ps') : P s' := by
  induction hr with
  | refl => exact h
  | head _ _ ih => exact ih (hstep _ _ h)

/-- No operation is lost or duplicated: an interleaving is a permutation of all threads' operations. -/
theorem C15_sched_interleave_perm {ps : List (List α)} {m : List α} (h : Interleave ps m) :
    m.Perm ps.flatten := by
  induction h with
  | done hd => rw [List.flatten_eq_nil_iff.mpr hd]
  | pick hp _ ih => exact (List.Perm.cons _ ih).trans (pop_flatten_perm hp).symm

/-- Program order is kept: every thread's operation list is a subsequence of the interleaving. -/
theorem C15_sched_interleave_sublist {ps : List (List α)} {m : List α} (h : Interleave ps m) :
    ∀ p ∈ ps, p.Sublist m := by
  induction h with
  | done hd => intro p hp; rw [hd p hp]
  | pick hpop _ ih =>
    intro p hp
    rcases pop_threads hpop p hp with h1 | ⟨p', h1, rfl⟩
    · exact List.Sublist.cons _ (ih p h1)
    · exact List.Sublist.cons_cons _ (ih p' h1)

/-- The executable schedule applier used by the driver/harness yields an interleaving whenever the
schedule runs every thread to completion. -/
theorem C15_sched_applySchedule_interleave (ps : List (List α)) (sched : List Nat)
    (h : ∀ p ∈ remaining ps sched, p = []) : Interleave ps (applySchedule ps sched) := by
  induction sched generalizing ps with
  | nil => exact Interleave.done h
  | cons i is ih =>
    simp only [applySchedule, remaining] at h ⊢
    cases hp : pop ps i with
    | none => simp only [hp] at h ⊢; exact ih ps h
    | some r =>
      obtain ⟨a, ps'⟩ := r
      simp only [hp] at h ⊢
      exact Interleave.pick hp (ih ps' h)

/-- Interleavings exist for every family of thread programs (the statements above are not vacuous). -/
theorem C15_sched_interleave_exists (ps : List (List α)) : ∃ m, Interleave ps m := by
  suffices ∀ n, ∀ ps : List (List α), ps.flatten.length = n → ∃ m, Interleave ps m from this _ ps rfl
  intro n
  induction n with
  | zero => exact fun ps h => ⟨[], .done (List.flatten_eq_nil_iff.mp (List.eq_nil_of_length_eq_zero h))⟩
  | succ n ih =>
    intro ps h
    obtain ⟨i, a, ps', hp⟩ := pop_some_of_not_done ps fun hall => by
      rw [List.flatten_eq_nil_iff.mpr hall] at h; cases h
    have hl := (pop_flatten_perm hp).length_eq
    rw [h, List.length_cons] at hl
    obtain ⟨m, hm⟩ := ih ps' (Nat.succ.inj hl).symm
    exact ⟨a :: m, .pick hp hm⟩

/-- Two threads, one schedule. -/
example : applySchedule [[1, 2], [10]] [0, 1, 0] = [1, 10, 2] ∧
    remaining [[1, 2], [10]] [0, 1, 0] = [[], []] := by decide +kernel

end Clem.Sched
