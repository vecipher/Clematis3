import Clem.Proofs.DetLru
import Clem.Proofs.Fold

/-!
# C15 — deterministic containers: `DeterministicLRUSet`, `DeterministicLRU`, `DedupeRing`

Every theorem is about the executable definitions in `Clem/Model/DetLru.lean` that the driver runs
against `clematis/engine/util/lru_det.py` and `clematis/engine/util/ring.py`.
-/

namespace Clem.DetLru

/-! ## DeterministicLRUSet (FIFO on first insertion) -/

namespace LSet

theorem C15_lset_inv_step (s : LSet) (op : Op) (h : Inv s) : Inv (s.step op) := by
  cases op with
  | clear => exact ⟨List.nodup_nil, Nat.zero_le _⟩
  | add x =>
    show Inv (s.add x).1
    unfold add
    by_cases hc : s.cap = 0
    · rw [if_pos hc]; exact h
    by_cases hx : s.q.contains x = true
    · rw [if_neg hc, if_pos hx]; exact h
    rw [if_neg hc, if_neg hx]
    have hnd : (s.q ++ [x]).Nodup :=
      List.nodup_append.mpr ⟨h.1, List.nodup_cons.mpr ⟨List.not_mem_nil, List.nodup_nil⟩,
        fun a ha b hb hab => hx (List.contains_iff_mem.mpr (List.mem_singleton.mp hb ▸ hab ▸ ha))⟩
    exact ⟨hnd.sublist (evictFront_sublist _ _), evictFront_length_le _ _⟩

/-- **Every reachable state** (any cap incl. ≤ 0, any operation sequence) holds each element once
and at most `cap` elements. -/
theorem C15_lset_inv_reachable (cap : Int) (ops : List Op) : Inv (run (init cap) ops) :=
  Fold.foldl_invariant Inv step ops (fun s op _ => C15_lset_inv_step s op)
    ⟨List.nodup_nil, Nat.zero_le _⟩

theorem C15_lset_monitor_iff (s : LSet) : s.invB = true ↔ Inv s := by
  unfold invB Inv
  rw [Bool.and_eq_true, decide_eq_true_eq, decide_eq_true_eq]

/-- Eviction is strictly first-in-first-out: a new element goes to the back; when the set is
full exactly the oldest element leaves and `add` reports it. -/
theorem C15_lset_add_fifo (s : LSet) (x : Nat) (hc : s.cap ≠ 0) (hx : x ∉ s.q) :
    (s.q.length < s.cap → s.add x = ({ s with q := s.q ++ [x] }, false)) ∧
    (s.q.length = s.cap → s.add x = ({ s with q := s.q.tail ++ [x] }, true)) := by
  have hadd : s.add x = ({ s with q := (evictFront s.cap (s.q ++ [x])).1 },
      !(evictFront s.cap (s.q ++ [x])).2.isEmpty) := by
    unfold add
    rw [if_neg hc, if_neg (mt List.contains_iff_mem.mp hx)]
  rw [hadd]
  refine (evictFront_snoc s.cap hc s.q x).imp (fun h hl => ?_) (fun h hl => ?_) <;> rw [h hl]
  · rfl
  · cases hq : s.q with
    | nil => exact absurd (hq ▸ hl).symm hc
    | cons a t => rfl

/-- Re-adding a member changes nothing (no recency update). -/
theorem C15_lset_add_present_noop (s : LSet) (x : Nat) (hx : x ∈ s.q) : s.add x = (s, false) := by
  unfold add
  by_cases hc : s.cap = 0
  · rw [if_pos hc]
  · rw [if_neg hc, if_pos (List.contains_iff_mem.mpr hx)]

/-- The element just added is a member (never self-evicted). -/
theorem C15_lset_contains_after_add (s : LSet) (x : Nat) (hc : s.cap ≠ 0) (h : Inv s) :
    (s.add x).1.contains x = true := by
  have hpos : decide (0 < s.cap) = true := decide_eq_true (Nat.pos_of_ne_zero hc)
  by_cases hx : x ∈ s.q
  · rw [C15_lset_add_present_noop s x hx]
    exact Bool.and_eq_true_iff.mpr ⟨hpos, List.contains_iff_mem.mpr hx⟩
  · obtain ⟨h1, h2⟩ := C15_lset_add_fifo s x hc hx
    rcases Nat.lt_or_eq_of_le h.2 with hl | hl
    · rw [h1 hl]
      exact Bool.and_eq_true_iff.mpr ⟨hpos, List.contains_iff_mem.mpr (List.mem_append_right _ List.mem_cons_self)⟩
    · rw [h2 hl]
      exact Bool.and_eq_true_iff.mpr ⟨hpos, List.contains_iff_mem.mpr (List.mem_append_right _ List.mem_cons_self)⟩

/-- `cap ≤ 0` ⇒ disabled: nothing is ever stored, `contains` is false, `add` reports no eviction. -/
theorem C15_lset_disabled (cap : Int) (hc : cap ≤ 0) (ops : List Op) (x : Nat) :
    run (init cap) ops = init cap ∧ (run (init cap) ops).contains x = false ∧
    ((run (init cap) ops).add x).2 = false := by
  have h0 : cap.toNat = 0 := Int.toNat_eq_zero.mpr hc
  have hadd : ∀ x, (init cap).add x = (init cap, false) := fun x => if_pos h0
  have h : run (init cap) ops = init cap :=
    Fold.foldl_fixed step _ ops (fun op _ => by
      cases op with
      | add x => exact congrArg Prod.fst (hadd x)
      | clear => rfl)
  rw [h]
  exact ⟨rfl, by unfold contains init; rw [h0]; rfl, congrArg Prod.snd (hadd x)⟩

example : (run (init 2) [.add 1, .add 2, .add 1, .add 3]).q = [2, 3] ∧
    ((run (init 2) [.add 1, .add 2]).add 3).2 = true := by decide +kernel

end LSet

/-! ## DeterministicLRU (map) -/

namespace LMap

theorem C15_lmap_inv_get (s : LMap) (k : Nat) (h : Inv s) : Inv (s.get k).1 := by
  unfold get
  by_cases hc : s.cap = 0
  · rw [if_pos hc]; exact h
  rw [if_neg hc]
  split
  · exact h
  · next v hv =>
    by_cases hu : s.uog = true
    · rw [if_pos hu]; exact inv_reinsert s k v v h hv
    · rw [if_neg hu]; exact h

theorem C15_lmap_inv_put (s : LMap) (k v : Nat) (h : Inv s) : Inv (s.put k v).1 := by
  unfold put
  by_cases hc : s.cap = 0
  · rw [if_pos hc]; exact h
  rw [if_neg hc]
  split
  · next w hw =>
    by_cases hu : s.uop = true
    · rw [if_pos hu]; exact inv_reinsert s k v w h hw
    · rw [if_neg hu]
      exact ⟨(replace_keys k v s.items).symm ▸ h.1, (List.length_map _).symm ▸ h.2⟩
  · next hn =>
    have hnd : ((s.items ++ [(k, v)]).map (·.1)).Nodup :=
      KeyedList.nodup_keys_snoc h.1 (lookup_none_iff.mp hn)
    exact ⟨hnd.sublist ((evictFront_sublist _ _).map _), evictFront_length_le _ _⟩

theorem C15_lmap_inv_step (s : LMap) (op : Op) (h : Inv s) : Inv (s.step op) := by
  cases op with
  | get k => exact C15_lmap_inv_get s k h
  | put k v => exact C15_lmap_inv_put s k v h
  | clear => exact ⟨List.nodup_nil, Nat.zero_le _⟩
  | popLru =>
    show Inv s.popLru.1
    unfold popLru
    split
    · exact h
    · split
      · exact h
      · next e es he =>
        obtain ⟨h1, h2⟩ := h
        rw [he] at h1 h2
        exact ⟨(List.nodup_cons.mp h1).2, Nat.le_of_succ_le h2⟩

/-- **Every reachable state** (any cap, both recency flags, any operation sequence) holds each key
once and at most `cap` entries. -/
theorem C15_lmap_inv_reachable (cap : Int) (uog uop : Bool) (ops : List Op) :
    Inv (run (init cap uog uop) ops) :=
  Fold.foldl_invariant Inv step ops (fun s op _ => C15_lmap_inv_step s op)
    ⟨List.nodup_nil, Nat.zero_le _⟩

theorem C15_lmap_monitor_iff (s : LMap) : s.invB = true ↔ Inv s := by
  unfold invB Inv
  rw [Bool.and_eq_true, decide_eq_true_eq, decide_eq_true_eq]

/-- Inserting a new key evicts nothing while there is room, and exactly the least-recently-used
entry (reported to `on_evict` and returned) when the map is full. -/
theorem C15_lmap_put_evicts_lru (s : LMap) (k v : Nat) (hc : s.cap ≠ 0)
    (hk : lookup k s.items = none) :
    (s.items.length < s.cap → s.put k v = ({ s with items := s.items ++ [(k, v)] }, [])) ∧
    (s.items.length = s.cap →
      s.put k v = ({ s with items := s.items.tail ++ [(k, v)] }, s.items.take 1)) := by
  have hput : s.put k v = ({ s with items := (evictFront s.cap (s.items ++ [(k, v)])).1 },
      (evictFront s.cap (s.items ++ [(k, v)])).2) := by
    unfold put; rw [if_neg hc, hk]
  rw [hput]
  exact (evictFront_snoc s.cap hc s.items (k, v)).imp (fun h hl => by rw [h hl])
    (fun h hl => by rw [h hl])

/-- Updating a present key never evicts; it moves the key to the MRU end iff `update_on_put`,
otherwise the recency order is untouched. -/
theorem C15_lmap_put_present (s : LMap) (k v w : Nat) (hc : s.cap ≠ 0)
    (hk : lookup k s.items = some w) :
    (s.put k v).2 = [] ∧
    (s.uop = true → (s.put k v).1.items = without k s.items ++ [(k, v)]) ∧
    (s.uop = false → (s.put k v).1.items.map (·.1) = s.items.map (·.1)) := by
  unfold put
  rw [if_neg hc, hk]
  cases s.uop
  · exact ⟨rfl, (nomatch ·), fun _ => replace_keys k v s.items⟩
  · exact ⟨rfl, fun _ => rfl, (nomatch ·)⟩

/-- The key just written is retrievable with the written value (never self-evicted). -/
theorem C15_lmap_get_after_put (s : LMap) (k v : Nat) (hc : s.cap ≠ 0) (h : Inv s) :
    lookup k (s.put k v).1.items = some v := by
  cases hk : lookup k s.items with
  | none =>
    obtain ⟨h1, h2⟩ := C15_lmap_put_evicts_lru s k v hc hk
    rcases Nat.lt_or_eq_of_le h.2 with hl | hl
    · rw [h1 hl]; exact lookup_append_new k v _ hk
    · rw [h2 hl]
      refine lookup_append_new k v _ (lookup_none_iff.mpr fun hm => lookup_none_iff.mp hk ?_)
      exact ((List.tail_sublist _).map _).subset hm
  | some w =>
    obtain ⟨-, h1, h2⟩ := C15_lmap_put_present s k v w hc hk
    cases hu : s.uop
    · unfold put
      rw [if_neg hc, hk, hu]
      exact lookup_replace k v _ w hk
    · rw [h1 hu]
      exact lookup_append_new k v _ (lookup_none_iff.mpr KeyedList.not_mem_keys_filter)

/-- `get` returns the stored value; it moves the key to the MRU end iff `update_on_get`. -/
theorem C15_lmap_get_spec (s : LMap) (k : Nat) (hc : s.cap ≠ 0) :
    (s.get k).2 = lookup k s.items ∧
    (s.uog = false → (s.get k).1 = s) ∧
    (s.uog = true → ∀ w, lookup k s.items = some w → (s.get k).1.items = without k s.items ++ [(k, w)]) := by
  unfold get
  rw [if_neg hc]
  cases hk : lookup k s.items with
  | none => exact ⟨rfl, fun _ => rfl, fun _ w hw => nomatch hw⟩
  | some w =>
    cases s.uog
    · exact ⟨rfl, fun _ => rfl, (nomatch ·)⟩
    · exact ⟨rfl, (nomatch ·), fun _ w' hw => by cases hw; rfl⟩

/-- `pop_lru` removes and returns the least-recently-used entry. -/
theorem C15_lmap_pop_lru (s : LMap) (e : Nat × Nat) (es : List (Nat × Nat)) (hc : s.cap ≠ 0)
    (h : s.items = e :: es) : s.popLru = ({ s with items := es }, some e) := by
  unfold popLru; rw [if_neg hc, h]

/-- `cap ≤ 0` ⇒ disabled: always-miss cache that stores and evicts nothing. -/
theorem C15_lmap_disabled (cap : Int) (hc : cap ≤ 0) (uog uop : Bool) (ops : List Op) (k v : Nat) :
    run (init cap uog uop) ops = init cap uog uop ∧
    ((run (init cap uog uop) ops).get k).2 = none ∧
    ((run (init cap uog uop) ops).put k v).2 = [] ∧ (run (init cap uog uop) ops).len = 0 := by
  have h0 : (init cap uog uop).cap = 0 := Int.toNat_eq_zero.mpr hc
  have hget : ∀ k, (init cap uog uop).get k = (init cap uog uop, none) := fun k => if_pos h0
  have hput : ∀ k v, (init cap uog uop).put k v = (init cap uog uop, []) := fun k v => if_pos h0
  have h : run (init cap uog uop) ops = init cap uog uop :=
    Fold.foldl_fixed step _ ops (fun op _ => by
      cases op with
      | get k => exact congrArg Prod.fst (hget k)
      | put k v => exact congrArg Prod.fst (hput k v)
      | popLru => exact congrArg Prod.fst (if_pos h0 : (init cap uog uop).popLru = _)
      | clear => rfl)
  rw [h]
  exact ⟨rfl, congrArg Prod.snd (hget k), congrArg Prod.snd (hput k v),
    if_neg (Nat.not_lt.mpr (Nat.le_of_eq h0))⟩

example :
    (run (init 2 true true) [.put 1 10, .put 2 20, .get 1, .put 3 30]).items = [(1, 10), (3, 30)] ∧
    (run (init 2 false true) [.put 1 10, .put 2 20, .get 1, .put 3 30]).items = [(2, 20), (3, 30)] ∧
    ((run (init 2 true true) [.put 1 10, .put 2 20, .get 1]).put 3 30).2 = [(2, 20)] := by decide +kernel

end LMap

/-! ## DedupeRing -/

namespace Ring

theorem C15_ring_inv_step (s : Ring) (op : Op) (h : Inv s) : Inv (s.step op) := by
  cases op with
  | clear => exact ⟨Nat.zero_le _, fun _ => Nat.le_refl _⟩
  | discard x =>
    show Inv (s.discard x)
    unfold discard
    split
    · exact h
    · exact ⟨h.1, fun y => Nat.le_trans ((List.erase_sublist).count_le y) (h.2 y)⟩
  | add x =>
    show Inv (s.add x)
    unfold add
    split
    · exact h
    · next hk =>
      obtain ⟨e1, e2⟩ := evict_inv s.k (Nat.pos_of_ne_zero hk) s.q s.ref h.2
      refine ⟨by rw [List.length_append]; exact e2, fun y => ?_⟩
      show (x :: (evict s.k s.q s.ref).2).count y ≤ ((evict s.k s.q s.ref).1 ++ [x]).count y
      rw [List.count_cons, List.count_append, List.count_singleton]
      exact Nat.add_le_add_right (e1 y) _

/-- **Every reachable state** (any `k`, any sequence of `add`/`discard`/`clear`; `extend` is `C15_ring_inv_extend`): the
window never holds more than `k` elements and no reference count exceeds the element's
multiplicity in the window (`discard` may make it smaller — by design). -/
theorem C15_ring_inv_reachable (k : Int) (ops : List Op) : Inv (run (init k) ops) :=
  Fold.foldl_invariant Inv step ops (fun s op _ => C15_ring_inv_step s op)
    ⟨Nat.zero_le _, fun _ => Nat.le_refl _⟩

/-- `extend` is a sequence of `add`s, so it preserves the invariant too. -/
theorem C15_ring_inv_extend (s : Ring) (xs : List Nat) (h : Inv s) : Inv (s.extend xs) :=
  Fold.foldl_invariant Inv add xs (fun s x _ => C15_ring_inv_step s (.add x)) h

theorem C15_ring_monitor_iff (s : Ring) : s.invB = true ↔ Inv s := by
  unfold invB Inv
  rw [Bool.and_eq_true, decide_eq_true_eq, List.all_eq_true]
  refine and_congr_right fun _ => ⟨fun b x => ?_, fun b x _ => decide_eq_true (b x)⟩
  by_cases hx : x ∈ s.ref
  · exact of_decide_eq_true (b x hx)
  · rw [List.count_eq_zero_of_not_mem hx]; exact Nat.zero_le _

/-- Membership is sound: whatever `contains` reports is physically in the window. -/
theorem C15_ring_contains_sound (s : Ring) (x : Nat) (h : Inv s) (hc : s.contains x = true) :
    x ∈ s.q := by
  unfold contains at hc
  rw [Bool.and_eq_true, decide_eq_true_eq, decide_eq_true_eq] at hc
  exact List.count_pos_iff.mp (Nat.lt_of_lt_of_le hc.2 (h.2 x))

/-- In histories without `discard` the reference counts are *exactly* the multiplicities in the
window (the refcount bag is a permutation of the window). -/
theorem C15_ring_exact_without_discard (k : Int) (ops : List Op)
    (hd : ops.all (fun o => !o.isDiscard) = true) :
    (run (init k) ops).ref.Perm (run (init k) ops).q := by
  refine Fold.foldl_invariant (fun s : Ring => s.ref.Perm s.q) step ops (fun s op hop h => ?_)
    (List.Perm.refl _)
  cases op with
  | clear => exact List.Perm.refl _
  | discard x => exact nomatch (List.all_eq_true.mp hd _ hop)
  | add x =>
    show (s.add x).ref.Perm (s.add x).q
    unfold add
    split
    · exact h
    · exact ((evict_perm s.k s.q s.ref h).cons x).trans (List.perm_append_singleton x _).symm

/-- …hence, without `discard`, `contains x` is exactly "`x` is in the window". -/
theorem C15_ring_contains_exact (k : Int) (ops : List Op)
    (hd : ops.all (fun o => !o.isDiscard) = true) (x : Nat) :
    (run (init k) ops).contains x = true ↔ (0 < (run (init k) ops).k ∧ x ∈ (run (init k) ops).q) := by
  have hp := C15_ring_exact_without_discard k ops hd
  unfold contains
  rw [Bool.and_eq_true, decide_eq_true_eq, decide_eq_true_eq, List.count_pos_iff, hp.mem_iff]

/-- The window is first-in-first-out: `add` appends, dropping exactly the oldest element when
the window is full. -/
theorem C15_ring_add_fifo (s : Ring) (x : Nat) (hk : s.k ≠ 0) (hl : s.q.length ≤ s.k) :
    (s.add x).q = (if s.q.length < s.k then s.q else s.q.tail) ++ [x] := by
  unfold add
  rw [if_neg hk]
  by_cases h : s.q.length < s.k
  · rw [if_pos h, evict_lt _ _ _ h]
  · rw [if_neg h]
    cases hq : s.q with
    | nil => rw [hq] at h; exact absurd (Nat.pos_of_ne_zero hk) h
    | cons a t =>
      rw [hq] at h hl
      rw [evict_full _ a t _ (Nat.le_antisymm hl (Nat.le_of_not_lt h))]; rfl

/-- `discard` never touches the window. -/
theorem C15_ring_discard_keeps_window (s : Ring) (x : Nat) : (s.discard x).q = s.q := by
  unfold discard; split <;> rfl

/-- `k ≤ 0` ⇒ disabled: no-ops, `contains` is false. -/
theorem C15_ring_disabled (k : Int) (hk : k ≤ 0) (ops : List Op) (x : Nat) :
    run (init k) ops = init k ∧ (run (init k) ops).contains x = false := by
  have h0 : k.toNat = 0 := Int.toNat_eq_zero.mpr hk
  have h : run (init k) ops = init k :=
    Fold.foldl_fixed step _ ops (fun op _ => by
      cases op with
      | add x => exact (if_pos h0 : (init k).add x = _)
      | discard x => exact (if_pos h0 : (init k).discard x = _)
      | clear => rfl)
  rw [h]
  exact ⟨rfl, by unfold contains init; rw [h0]; rfl⟩

/-- With `discard` the ring under-counts by design: an element physically in the window can be
reported absent.  (So `contains x ↔ x ∈ window` is NOT a property of the code; the proved
invariant is the one-sided `C15_ring_contains_sound` + exactness for discard-free histories.) -/
theorem C15_ring_discard_undercounts_witness :
    ∃ (ops : List Op) (x : Nat),
      x ∈ (run (init 3) ops).q ∧ (run (init 3) ops).contains x = false :=
  ⟨[.add 1, .add 2, .discard 1], 1, by decide +kernel⟩

example : (run (init 2) [.add 1, .add 1, .add 2]).q = [1, 2] ∧
    (run (init 2) [.add 1, .add 1, .add 2]).contains 1 = true ∧
    (run (init 2) [.add 1, .add 1, .add 2, .add 3]).contains 1 = false := by decide +kernel

end Ring

end Clem.DetLru
