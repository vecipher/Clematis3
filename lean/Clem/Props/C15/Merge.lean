import Clem.Proofs.CacheMerge
import Clem.Proofs.Fold

/-!
# C15 — `merge_caches_deterministic` is deterministic in worker order and key order

Theorems about `Clem/Model/CacheMerge.lean` (the definitions the driver runs against
`clematis/engine/cache.py:merge_caches_deterministic`).  They hold for **every** target cache
(`TargetOps σ` is arbitrary: bounded, TTL-pruning, recency-touching …) and both conflict modes.
-/

namespace Clem.CacheMerge

open Clem.Py

/-- The visiting sequence does not depend on the order in which the workers are listed, provided
their order keys are pairwise distinct. -/
theorem C15_merge_seq_worker_order (ws ws' : List Worker) (hp : ws.Perm ws')
    (hd : ∀ a ∈ ws, ∀ b ∈ ws, a.ord = b.ord → a = b) : mergeSeq ws = mergeSeq ws' := by
  unfold mergeSeq
  rw [show isort workerLe ws = isort workerLe ws' from isort_ord_perm Worker.ord hp hd]

/-- **Deterministic in worker order**: for every target cache, start state and conflict mode the
merged cache (and whether `assert_equal` raises) is independent of the listing order of workers
with distinct order keys. -/
theorem C15_merge_deterministic_worker_order {σ : Type} (T : TargetOps σ) (assertEq : Bool) (t : σ)
    (ws ws' : List Worker) (hp : ws.Perm ws')
    (hd : ∀ a ∈ ws, ∀ b ∈ ws, a.ord = b.ord → a = b) :
    merge T assertEq t ws = merge T assertEq t ws' := by
  unfold merge; rw [C15_merge_seq_worker_order ws ws' hp hd]

/-- The visiting sequence does not depend on each worker's internal (dict) order: relabel every
worker by `g` that keeps its order key and permutes its items; if the items' order keys are
pairwise distinct within each worker the sequence is unchanged. -/
theorem C15_merge_seq_item_order (ws : List Worker) (g : Worker → Worker)
    (hg : ∀ w, (g w).ord = w.ord ∧ (g w).items.Perm w.items)
    (hd : ∀ w ∈ ws, ∀ a ∈ w.items, ∀ b ∈ w.items, a.ord = b.ord → a = b) :
    mergeSeq (ws.map g) = mergeSeq ws := by
  unfold mergeSeq
  rw [show isort workerLe (ws.map g) = (isort workerLe ws).map g from
    isort_map Worker.ord g (fun w => (hg w).1) ws, List.flatMap_map]
  refine List.flatMap_congr fun w hw => ?_
  exact (isort_ord_perm Item.ord (hg w).2.symm (hd w ((mem_isort workerLe).mp hw))).symm

/-- **Deterministic in key order**: the merged cache is independent of every worker's internal
item order (distinct key-order keys). -/
theorem C15_merge_deterministic_item_order {σ : Type} (T : TargetOps σ) (assertEq : Bool) (t : σ)
    (ws : List Worker) (g : Worker → Worker)
    (hg : ∀ w, (g w).ord = w.ord ∧ (g w).items.Perm w.items)
    (hd : ∀ w ∈ ws, ∀ a ∈ w.items, ∀ b ∈ w.items, a.ord = b.ord → a = b) :
    merge T assertEq t (ws.map g) = merge T assertEq t ws := by
  unfold merge; rw [C15_merge_seq_item_order ws g hg hd]

/-- Every worker item is visited exactly once. -/
theorem C15_merge_seq_perm (ws : List Worker) : (mergeSeq ws).Perm (ws.flatMap (·.items)) := by
  unfold mergeSeq
  refine (List.Perm.flatMap_right _ (isort_perm workerLe ws)).trans ?_
  induction ws with
  | nil => exact List.Perm.refl _
  | cons w l ih => exact List.Perm.append (isort_perm itemLe w.items) ih

/-- Workers are visited in non-decreasing order-key order. -/
theorem C15_merge_workers_sorted (ws : List Worker) :
    (isort workerLe ws).Pairwise (fun a b => a.ord ≤ b.ord) :=
  (isort_pairwise workerLe (ordLe_total Worker.ord) (ordLe_trans Worker.ord) ws).imp of_decide_eq_true

/-- `first_wins` on a plain dict target never raises, and the surviving value of every key is
the target's own value if it had one, else the value of the first item (in visiting order) that
carries the key. -/
theorem C15_merge_first_wins (t : List (Nat × Nat)) (ws : List Worker) (k : Nat) :
    (merge dictOps false t ws).2 = false ∧
    dlookup k (merge dictOps false t ws).1
      = dlookup k (t ++ (mergeSeq ws).map (fun it => (it.key, it.val))) := by
  unfold merge mergeItems
  generalize mergeSeq ws = its
  induction its generalizing t with
  | nil => exact ⟨rfl, by rw [List.map_nil, List.append_nil]; rfl⟩
  | cons it its ih =>
    -- a key the dict holds is skipped, a new one is appended
    have hs : mergeStep dictOps false (t, false) it
        = (if t.any (fun e => e.1 == it.key) then t else t ++ [(it.key, it.val)], false) := by
      show (if t.any (fun e => e.1 == it.key) = true then _ else _) = _
      cases t.any (fun e => e.1 == it.key) <;> rfl
    rw [List.foldl_cons, List.map_cons, hs]
    cases hc : t.any (fun e => e.1 == it.key) with
    | true => rw [dlookup_skip_dup k it.key it.val t _ hc]; exact ih t
    | false =>
      have := ih (t ++ [(it.key, it.val)])
      rw [List.append_assoc] at this
      exact this

/-- Any invariant of the target cache (capacity bound, unique keys …) that its own operations
preserve also holds after the merge — including when `assert_equal` raises half-way. -/
theorem C15_merge_preserves_invariant {σ : Type} (T : TargetOps σ) (P : σ → Prop)
    (hc : ∀ s k, P s → P (T.contains s k).1) (hg : ∀ s k, P s → P (T.get s k).1)
    (hp : ∀ s k v, P s → P (T.put s k v)) (assertEq : Bool) (t : σ) (ws : List Worker) (h : P t) :
    P (merge T assertEq t ws).1 := by
  unfold merge mergeItems
  refine Fold.foldl_invariant (fun acc : σ × Bool => P acc.1) (mergeStep T assertEq) _
    (fun acc it _ h => ?_) h
  unfold mergeStep
  by_cases h2 : acc.2 = true
  · rw [if_pos h2]; exact h
  · rw [if_neg h2]
    by_cases h3 : (T.contains acc.1 it.key).2 = true
    · by_cases h4 : assertEq = true
      · exact (if_pos h3).trans (if_pos h4) ▸ hg _ _ (hc _ _ h)
      · exact (if_pos h3).trans (if_neg h4) ▸ hc _ _ h
    · exact if_neg h3 ▸ hp _ _ _ (hc _ _ h)

/-! Non-vacuity: two workers listed in both orders, conflicting on key 1 — first (by order key)
wins; `assert_equal` raises on the same conflict. -/
example :
    let w1 : Worker := ⟨1, [⟨5, 1, 10⟩, ⟨2, 2, 20⟩]⟩
    let w2 : Worker := ⟨0, [⟨5, 1, 11⟩]⟩
    (merge dictOps false [] [w1, w2]).1 = [(1, 11), (2, 20)] ∧
    (merge dictOps false [] [w2, w1]).1 = [(1, 11), (2, 20)] ∧
    (merge dictOps true [] [w1, w2]).2 = true := by decide +kernel

end Clem.CacheMerge
