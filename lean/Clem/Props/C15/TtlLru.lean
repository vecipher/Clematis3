import Clem.Proofs.TtlLru
import Clem.Proofs.Fold

/-!
# C15 — TTL LRU (`_NamespaceCache`, `LRUCache`) and the namespaced `CacheManager`

Every theorem is about the executable definitions in `Clem/Model/TtlLru.lean` that the driver
runs against `clematis/engine/cache.py`.  Clock readings are arbitrary integers carried by the
operations (the clock may stand still or run backwards); `max` and `ttl` are arbitrary integers.
-/

namespace Clem.TtlLru

/-! ## Capacity and key-uniqueness invariant -/

theorem C15_ttl_ns_inv_init (max ttl : Int) : Ns.Inv (Ns.init max ttl) := ⟨List.nodup_nil, id⟩

/-- `get` (miss, expiry, or hit + move to MRU) preserves the invariant. -/
theorem C15_ttl_ns_inv_get (s : Ns) (now : Int) (k : Nat) (h : Ns.Inv s) : Ns.Inv (s.get now k).1 := by
  rcases get_cases s now k with ⟨_, hg⟩ | ⟨e, _, _, hg⟩ | ⟨e, he, _, hg⟩ <;> rw [hg]
  · exact h
  · exact inv_filter s _ h
  · have hl : (without k s.items ++ [e]).length ≤ s.items.length := by
      rw [List.length_append]; exact KeyedList.length_filter_lt he
    exact ⟨KeyedList.nodup_keys_reinsert h.1 (KeyedList.find?_some he).2, fun hm =>
      Int.le_trans (Int.ofNat_le.mpr hl) (h.2 hm)⟩

/-- `set` preserves the invariant — for every cap, including negative ones. -/
theorem C15_ttl_ns_inv_set (s : Ns) (now : Int) (k v : Nat) (h : Ns.Inv s) :
    Ns.Inv (s.set now k v).1 := by
  refine ⟨?_, evictOver_length_le _ _⟩
  show (((Ns.evictOver s.max (without k s.items ++ [⟨k, now, v⟩])).1).map Entry.key).Nodup
  rw [evictOver_eq]
  exact (KeyedList.nodup_keys_reinsert (e := (⟨k, now, v⟩ : Entry)) h.1 rfl).sublist
    ((List.drop_sublist _ _).map _)

theorem C15_ttl_ns_inv_contains (s : Ns) (now : Int) (k : Nat) (h : Ns.Inv s) :
    Ns.Inv (s.contains now k).1 := by
  rcases contains_cases s now k with ⟨_, hc⟩ | ⟨e, _, _, hc⟩ | ⟨e, _, _, hc⟩ <;> rw [hc]
  · exact h
  · exact inv_filter s _ h
  · exact h

theorem C15_ttl_ns_inv_prune (s : Ns) (now : Int) (h : Ns.Inv s) : Ns.Inv (s.prune now) := inv_filter s _ h

theorem C15_ttl_ns_inv_invalidate (s : Ns) (_h : Ns.Inv s) : Ns.Inv s.invalidate.1 := ⟨List.nodup_nil, id⟩

theorem nsStep_inv (s : Ns) (op : Op) (h : Ns.Inv s) : Ns.Inv (nsStep s op) := by
  cases op with
  | get now k => exact C15_ttl_ns_inv_get s now k h
  | set now k v => exact C15_ttl_ns_inv_set s now k v h
  | contains now k => exact C15_ttl_ns_inv_contains s now k h
  | items now => exact C15_ttl_ns_inv_prune s now h
  | invalidate => exact C15_ttl_ns_inv_invalidate s h

theorem C15_ttl_lru_inv_step (c : Lru) (op : Op) (h : Ns.Inv c.ns) : Ns.Inv (c.step op).ns := by
  rw [step_ns]; exact nsStep_inv c.ns op h

/-- **Every reachable state** of the TTL LRU — any cap, any TTL, any operation sequence with any
clock readings — holds each key once and (for a cap ≥ 0) at most `max` entries. -/
theorem C15_ttl_lru_inv_reachable (max ttl : Int) (ops : List Op) :
    Ns.Inv (Lru.run (Lru.init max ttl) ops).ns := by
  rw [run_ns]
  exact Fold.foldl_invariant Ns.Inv nsStep ops (fun s op _ => nsStep_inv s op)
    (C15_ttl_ns_inv_init max ttl)

/-- The Boolean monitor evaluated on the implementation's state is the invariant. -/
theorem C15_ttl_monitor_iff (s : Ns) : s.invB = true ↔ Ns.Inv s := by
  unfold Ns.invB Ns.Inv
  rw [Bool.and_eq_true, Bool.or_eq_true, decide_eq_true_eq, decide_eq_true_eq, decide_eq_true_eq,
    Decidable.or_iff_not_imp_left, Int.not_lt]

/-! ## TTL: expiry by the injected clock -/

/-- A hit is only ever served from an entry that is fresh w.r.t. the clock reading of the call:
TTL disabled (0) or age ≤ TTL; and it returns that entry's value. -/
theorem C15_ttl_get_hit_fresh (s : Ns) (now : Int) (k v : Nat) (h : (s.get now k).2 = some v) :
    ∃ e, lookup k s.items = some e ∧ e.val = v ∧ (s.ttl = 0 ∨ now - e.ts ≤ s.ttl) := by
  rcases get_cases s now k with ⟨_, hg⟩ | ⟨e, _, _, hg⟩ | ⟨e, he, hx, hg⟩ <;> rw [hg] at h
  · cases h
  · cases h
  · exact ⟨e, he, Option.some.inj h, (expired_eq_false_iff _ _ _).mp hx⟩

/-- A fresh entry always hits; the hit moves it to the MRU end and leaves the rest in order. -/
theorem C15_ttl_get_fresh_hits (s : Ns) (now : Int) (k : Nat) (e : Entry)
    (he : lookup k s.items = some e) (hf : s.ttl = 0 ∨ now - e.ts ≤ s.ttl) :
    (s.get now k).2 = some e.val ∧ (s.get now k).1.items = without k s.items ++ [e] := by
  rw [get_hit he ((expired_eq_false_iff _ _ _).mpr hf)]; exact ⟨rfl, rfl⟩

/-- An expired entry is a miss and is removed by the read; the others keep their order. -/
theorem C15_ttl_get_expired_removed (s : Ns) (now : Int) (k : Nat) (e : Entry)
    (he : lookup k s.items = some e) (h0 : s.ttl ≠ 0) (hx : s.ttl < now - e.ts) :
    (s.get now k).2 = none ∧ (s.get now k).1.items = without k s.items ∧
    lookup k (s.get now k).1.items = none := by
  rw [get_expired he ((expired_eq_true_iff _ _ _).mpr ⟨h0, hx⟩)]
  exact ⟨rfl, rfl, KeyedList.find?_filter_self⟩

/-- `__contains__` answers "present and fresh" and never changes the recency order. -/
theorem C15_ttl_contains_spec (s : Ns) (now : Int) (k : Nat) :
    ((s.contains now k).2 = true ↔ ∃ e, lookup k s.items = some e ∧ (s.ttl = 0 ∨ now - e.ts ≤ s.ttl)) ∧
    ((s.contains now k).1.items = s.items ∨ (s.contains now k).1.items = without k s.items) := by
  rcases contains_cases s now k with ⟨hl, hc⟩ | ⟨e, hl, hx, hc⟩ | ⟨e, hl, hx, hc⟩ <;> rw [hc, hl]
  · exact ⟨⟨(nomatch ·), fun ⟨_, h, _⟩ => nomatch h⟩, Or.inl rfl⟩
  · refine ⟨⟨(nomatch ·), fun ⟨e', h, hf⟩ => ?_⟩, Or.inr rfl⟩
    cases h
    rw [(expired_eq_false_iff _ _ _).mpr hf] at hx; cases hx
  · exact ⟨⟨fun _ => ⟨e, rfl, (expired_eq_false_iff _ _ _).mp hx⟩, fun _ => rfl⟩, Or.inl rfl⟩

/-! ## Eviction: strictly oldest first -/

/-- The entries evicted by `set` are a *prefix* of the recency order (written key moved to the
MRU end, stamped with the clock reading), the survivors are the rest in unchanged order, and the
count added to `stats["evicted"]` is exactly the length of that prefix. -/
theorem C15_ttl_set_evicts_oldest (s : Ns) (now : Int) (k v : Nat) :
    ∃ ev, without k s.items ++ [⟨k, now, v⟩] = ev ++ (s.set now k v).1.items ∧
      (0 ≤ s.max → (s.set now k v).2 = some ev.length) := by
  refine ⟨(without k s.items ++ [(⟨k, now, v⟩ : Entry)]).take
    ((without k s.items ++ [(⟨k, now, v⟩ : Entry)]).length - s.max.toNat), ?_, fun hm => ?_⟩
  · unfold Ns.set; rw [evictOver_eq]; exact (List.take_append_drop _ _).symm
  · unfold Ns.set
    rw [evictOver_eq, List.length_take, Nat.min_eq_left (Nat.sub_le _ _)]
    exact if_neg (Int.not_lt.mpr hm)

/-- Nothing is evicted while there is room. -/
theorem C15_ttl_set_no_eviction_when_room (s : Ns) (now : Int) (k v : Nat)
    (h : ((without k s.items).length : Int) + 1 ≤ s.max) :
    (s.set now k v).1.items = without k s.items ++ [⟨k, now, v⟩] ∧ (s.set now k v).2 = some 0 := by
  have := evictOver_fits s.max (without k s.items ++ [⟨k, now, v⟩])
    (by rw [List.length_append]; exact h)
  unfold Ns.set
  rw [this]
  exact ⟨rfl, if_neg (by omega)⟩

/-- The key just written is never evicted by its own `set` (cap ≥ 1) and is retrievable with the
written value and the clock reading of the write. -/
theorem C15_ttl_set_keeps_key (s : Ns) (now : Int) (k v : Nat) (hm : 1 ≤ s.max) (h : Ns.Inv s) :
    lookup k (s.set now k v).1.items = some ⟨k, now, v⟩ := by
  obtain ⟨p', hp⟩ := evictOver_keeps_last s.max hm (without k s.items) ⟨k, now, v⟩
  have hinv : (((Ns.evictOver s.max (without k s.items ++ [⟨k, now, v⟩])).1).map Entry.key).Nodup :=
    (C15_ttl_ns_inv_set s now k v h).1
  show lookup k (Ns.evictOver s.max (without k s.items ++ [⟨k, now, v⟩])).1 = _
  rw [hp] at hinv ⊢
  exact KeyedList.find?_of_mem (key := Entry.key) hinv (List.mem_append_right _ List.mem_cons_self)

/-- A cap of zero disables the cache: no operation sequence ever leaves an entry behind and
every `get` misses. -/
theorem C15_ttl_max0_nothing_retrievable (ttl : Int) (ops : List Op) (now : Int) (k : Nat) :
    (Lru.run (Lru.init 0 ttl) ops).ns.items = [] ∧
    ((Lru.run (Lru.init 0 ttl) ops).get now k).2 = none := by
  have hmax : (Lru.run (Lru.init 0 ttl) ops).ns.max = 0 := by
    rw [run_ns]
    exact Fold.foldl_invariant (fun s : Ns => s.max = 0) nsStep ops
      (fun s op _ hs => (nsStep_settings s op).1.trans hs) rfl
  have hl := (C15_ttl_lru_inv_reachable 0 ttl ops).2 (Int.le_of_eq hmax.symm)
  rw [hmax] at hl
  have : (Lru.run (Lru.init 0 ttl) ops).ns.items = [] :=
    List.eq_nil_of_length_eq_zero (Int.ofNat_eq_zero.mp (Int.le_antisymm hl (Int.natCast_nonneg _)))
  refine ⟨this, ?_⟩
  unfold Lru.get Ns.get
  rw [this]; rfl

/-! ## Counters -/

/-- `hits + misses` counts exactly the `get`s. -/
theorem C15_ttl_hits_misses_count (max ttl : Int) (ops : List Op) :
    (Lru.run (Lru.init max ttl) ops).hits + (Lru.run (Lru.init max ttl) ops).misses
      = (ops.filter Op.isGet).length := by
  have := Fold.foldl_count (fun c : Lru => c.hits + c.misses) Op.isGet Lru.step
    (fun c op => by
      cases op with
      | get now k =>
        obtain ⟨_, _, e, hs⟩ := lru_get_eq c now k
        show (c.get now k).1.hits + (c.get now k).1.misses = _
        rw [e]; exact hs
      | set now k v =>
        obtain ⟨_, e⟩ := lru_set_eq c now k v
        show (c.set now k v).1.hits + (c.set now k v).1.misses = c.hits + c.misses
        rw [e]
      | _ => rfl)
    (Lru.init max ttl) ops
  exact this.trans (Nat.zero_add _)

/-! ## CacheManager -/

theorem C15_mgr_inv_init (max ttl : Int) : Mgr.Inv (Mgr.init max ttl) := ⟨List.nodup_nil, fun _ h => nomatch h⟩

/-- The cache a manager operation works on satisfies the namespace invariant. -/
theorem C15_mgr_nsObj_inv (m : Mgr) (n : Nat) (h : Mgr.Inv m) :
    Ns.Inv (m.nsObj n) ∧ (m.nsObj n).max = m.max ∧ (m.nsObj n).ttl = m.ttl := by
  unfold Mgr.nsObj
  cases hf : Mgr.find n m.nss with
  | none => exact ⟨C15_ttl_ns_inv_init _ _, rfl, rfl⟩
  | some c => exact h.2 _ (KeyedList.assoc_some hf)

theorem C15_mgr_inv_store (m : Mgr) (n : Nat) (c : Ns) (h : Mgr.Inv m)
    (hc : Ns.Inv c ∧ c.max = m.max ∧ c.ttl = m.ttl) :
    ((Mgr.store n c m.nss).map (·.1)).Nodup ∧
    ∀ p ∈ Mgr.store n c m.nss, Ns.Inv p.2 ∧ p.2.max = m.max ∧ p.2.ttl = m.ttl := by
  refine ⟨store_keys_nodup n c h.1, fun p hp => ?_⟩
  rcases mem_store hp with rfl | hp
  · exact hc
  · exact h.2 p hp

theorem C15_mgr_inv_step (m : Mgr) (op : MOp) (h : Mgr.Inv m) : Mgr.Inv (m.step op) := by
  cases op with
  | get n now k =>
    obtain ⟨i1, i2, i3⟩ := C15_mgr_nsObj_inv m n h
    have hs := ns_get_settings (m.nsObj n) now k
    obtain ⟨_, _, e, _⟩ := mgr_get_eq m n now k
    show Mgr.Inv (m.get n now k).1
    rw [e]
    exact C15_mgr_inv_store m n _ h ⟨C15_ttl_ns_inv_get _ now k i1, hs.1.trans i2, hs.2.trans i3⟩
  | set n now k v =>
    obtain ⟨i1, i2, i3⟩ := C15_mgr_nsObj_inv m n h
    obtain ⟨_, e⟩ := mgr_set_eq m n now k v
    show Mgr.Inv (m.set n now k v).1
    rw [e]
    exact C15_mgr_inv_store m n _ h ⟨C15_ttl_ns_inv_set _ now k v i1, i2, i3⟩
  | invalidateNs n =>
    show Mgr.Inv (m.invalidateNs n).1
    unfold Mgr.invalidateNs
    split
    · exact h
    · next c hc =>
      have hm := h.2 _ (KeyedList.assoc_some hc)
      exact C15_mgr_inv_store m n c.invalidate.1 h ⟨C15_ttl_ns_inv_invalidate c hm.1, hm.2⟩
  | invalidateAll =>
    refine ⟨?_, fun p hp => ?_⟩
    · show ((m.nss.map fun p => (p.1, p.2.invalidate.1)).map (·.1)).Nodup
      rw [List.map_map]; exact h.1
    · obtain ⟨q, hq, rfl⟩ := List.mem_map.mp hp
      have hm := h.2 q hq
      exact ⟨C15_ttl_ns_inv_invalidate q.2 hm.1, hm.2⟩

/-- Every reachable manager state: distinct namespaces, each within capacity with unique keys. -/
theorem C15_mgr_inv_reachable (max ttl : Int) (ops : List MOp) :
    Mgr.Inv (Mgr.run (Mgr.init max ttl) ops) :=
  Fold.foldl_invariant Mgr.Inv Mgr.step ops (fun m op _ => C15_mgr_inv_step m op)
    (C15_mgr_inv_init max ttl)

/-- Namespaces are independent: an operation on namespace `a` leaves the cache of every other
namespace `b` exactly as it was. -/
theorem C15_mgr_namespace_independent (m : Mgr) (a b : Nat) (hab : a ≠ b) (now : Int) (k v : Nat) :
    Mgr.find b (m.get a now k).1.nss = Mgr.find b m.nss ∧
    Mgr.find b (m.set a now k v).1.nss = Mgr.find b m.nss ∧
    Mgr.find b (m.invalidateNs a).1.nss = Mgr.find b m.nss := by
  have hne := fun c => (find_store a b c m.nss).trans (if_neg hab)
  refine ⟨?_, ?_, ?_⟩
  · obtain ⟨_, _, e, _⟩ := mgr_get_eq m a now k; rw [e]; exact hne _
  · obtain ⟨_, e⟩ := mgr_set_eq m a now k v; rw [e]; exact hne _
  · unfold Mgr.invalidateNs; split
    · rfl
    · exact hne _

/-- …and the operation acts on namespace `a` exactly like the single-namespace cache. -/
theorem C15_mgr_acts_on_namespace (m : Mgr) (a : Nat) (now : Int) (k v : Nat) :
    Mgr.find a (m.get a now k).1.nss = some ((m.nsObj a).get now k).1 ∧
    (m.get a now k).2 = ((m.nsObj a).get now k).2 ∧
    Mgr.find a (m.set a now k v).1.nss = some ((m.nsObj a).set now k v).1 := by
  have hself := fun c => (find_store a a c m.nss).trans (if_pos rfl)
  obtain ⟨_, _, eg, _⟩ := mgr_get_eq m a now k
  obtain ⟨_, es⟩ := mgr_set_eq m a now k v
  rw [eg, es]
  exact ⟨hself _, rfl, hself _⟩

/-- `invalidate_all` empties every namespace and reports exactly `stats["size"]`. -/
theorem C15_mgr_invalidate_all (m : Mgr) :
    m.invalidateAll.1.size = 0 ∧ m.invalidateAll.2 = m.size := by
  refine ⟨?_, rfl⟩
  show ((m.nss.map fun p => (p.1, p.2.invalidate.1)).map fun p => p.2.size).sum = 0
  rw [List.map_map]
  induction m.nss with
  | nil => rfl
  | cons p ps ih => rw [List.map_cons, List.sum_cons, ih]; rfl

/-- `stats["size"]` (the sum of the namespace sizes) never exceeds `#namespaces × max`. -/
theorem C15_mgr_size_bound (m : Mgr) (h : Mgr.Inv m) (hm : 0 ≤ m.max) :
    (m.size : Int) ≤ m.nss.length * m.max := by
  have hall : ∀ p ∈ m.nss, (p.2.size : Int) ≤ m.max := fun p hp =>
    (h.2 p hp).2.1 ▸ (h.2 p hp).1.2 ((h.2 p hp).2.1 ▸ hm)
  unfold Mgr.size
  generalize m.nss = l at hall
  induction l with
  | nil => exact Int.le_of_eq (Int.zero_mul _).symm
  | cons p ps ih =>
    rw [List.map_cons, List.sum_cons, Int.natCast_add, List.length_cons, Int.natCast_add,
      Int.add_mul, Int.add_comm]
    exact Int.add_le_add (ih fun q hq => hall q (List.mem_cons_of_mem _ hq))
      (Int.le_trans (hall p List.mem_cons_self) (Int.le_of_eq (Int.one_mul _).symm))

/-- Manager-wide `hits + misses` counts exactly the `get`s. -/
theorem C15_mgr_hits_misses_count (max ttl : Int) (ops : List MOp) :
    (Mgr.run (Mgr.init max ttl) ops).hits + (Mgr.run (Mgr.init max ttl) ops).misses
      = (ops.filter MOp.isGet).length := by
  have := Fold.foldl_count (fun m : Mgr => m.hits + m.misses) MOp.isGet Mgr.step
    (fun m op => by
      cases op with
      | get n now k =>
        obtain ⟨_, _, e, hs⟩ := mgr_get_eq m n now k
        show (m.get n now k).1.hits + (m.get n now k).1.misses = _
        rw [e]; exact hs
      | set n now k v =>
        obtain ⟨_, e⟩ := mgr_set_eq m n now k v
        show (m.set n now k v).1.hits + (m.set n now k v).1.misses = m.hits + m.misses
        rw [e]
      | invalidateNs n =>
        show (m.invalidateNs n).1.hits + (m.invalidateNs n).1.misses = m.hits + m.misses
        unfold Mgr.invalidateNs; split <;> rfl
      | invalidateAll => rfl)
    (Mgr.init max ttl) ops
  exact this.trans (Nat.zero_add _)

/-! ## No completed put is lost -/

/-- One step under the no-loss conditions: the invariant is kept and the visible values change
exactly as the specification `applySets` says. -/
theorem C15_ttl_no_put_lost_step (max : Int) (K : List Nat) (hcap : (K.length : Int) ≤ max)
    (c : Lru) (op : Op) (h : NoLossInv max K c) (hinv : op ≠ .invalidate)
    (hkey : ∀ now k v, op = .set now k v → k ∈ K) :
    NoLossInv max K (c.step op) ∧
    ∀ x, (c.step op).ns.valOf x = applySets c.ns.valOf [op] x := by
  obtain ⟨h1, h2, h3, h4⟩ := h
  have hset := nsStep_settings c.ns op
  suffices hN : (∀ e ∈ (nsStep c.ns op).items, e.key ∈ K) ∧
      ∀ x, (nsStep c.ns op).valOf x = applySets c.ns.valOf [op] x by
    unfold NoLossInv; rw [step_ns]
    exact ⟨⟨nsStep_inv _ _ h1, hset.2.trans h2, hset.1.trans h3, hN.1⟩, hN.2⟩
  -- moving or adding an entry with key in `K` at the MRU end keeps the keys within `K`
  have hre : ∀ (t : Ns) (e : Entry), t.items = without e.key c.ns.items ++ [e] → e.key ∈ K →
      ∀ a ∈ t.items, a.key ∈ K :=
    fun t e ht he a ha => (List.mem_append.mp (ht ▸ ha)).elim
      (fun ha => h4 a (List.mem_filter.mp ha).1) fun ha => List.mem_singleton.mp ha ▸ he
  cases op with
  | invalidate => exact absurd rfl hinv
  | get now k =>
    show (∀ e ∈ (c.ns.get now k).1.items, e.key ∈ K) ∧
      ∀ x, (c.ns.get now k).1.valOf x = c.ns.valOf x
    cases he : lookup k c.ns.items with
    | none => rw [get_miss he]; exact ⟨h4, fun _ => rfl⟩
    | some e =>
      -- with the TTL off the found entry moves to the MRU end, which changes no value
      obtain ⟨hm, rfl⟩ := KeyedList.find?_some he
      have hg := (C15_ttl_get_fresh_hits c.ns now _ e he (.inl h2)).2
      refine ⟨hre _ e hg (h4 e hm), fun x => (valOf_reinsert hg x).trans ?_⟩
      split
      · next hx => rw [hx]; exact (congrArg (Option.map (·.val)) he).symm
      · rfl
  | contains now k =>
    -- with the TTL off `contains` and `items()` find nothing to drop
    have : nsStep c.ns (.contains now k) = c.ns := by
      show (c.ns.contains now k).1 = c.ns
      unfold Ns.contains; rw [h2]; cases lookup k c.ns.items <;> rfl
    rw [this]; exact ⟨h4, fun _ => rfl⟩
  | items now =>
    have : nsStep c.ns (.items now) = c.ns := by
      show c.ns.prune now = c.ns
      unfold Ns.prune; rw [List.filter_eq_self.mpr fun e _ => by rw [h2]; rfl]
    rw [this]; exact ⟨h4, fun _ => rfl⟩
  | set now k v =>
    have hkK := hkey now k v rfl
    -- the reinserted list fits: its keys are distinct members of `K`
    have hnd := KeyedList.nodup_keys_reinsert (e := (⟨k, now, v⟩ : Entry)) h1.1 rfl
    have hlen := hnd.length_le_of_subset (l₂ := K) fun x hx => by
      obtain ⟨a, ha, rfl⟩ := List.mem_map.mp hx
      exact hre { c.ns with items := _ } ⟨k, now, v⟩ rfl hkK a ha
    rw [List.length_map] at hlen
    have hs : (c.ns.set now k v).1.items = without k c.ns.items ++ [⟨k, now, v⟩] :=
      congrArg Prod.fst (evictOver_fits _ _ (h3 ▸ Int.le_trans (Int.ofNat_le.mpr hlen) hcap))
    exact ⟨hre _ ⟨k, now, v⟩ hs hkK, valOf_reinsert (e := ⟨k, now, v⟩) hs⟩

/-- **No completed put is lost** (sequential core; `Clem/Props/C15/Wrappers.lean` lifts it to every
schedule of the lock wrappers).  TTL off, no `invalidate`, and a cap that is at least the number of
distinct keys ever written: after *any* operation sequence every key holds exactly the value of
the last `set` on it (`applySets` = "last write wins, nothing else changes values"). -/
theorem C15_ttl_no_put_lost (max : Int) (K : List Nat) (hcap : (K.length : Int) ≤ max)
    (ops : List Op) (hinv : ∀ op ∈ ops, op ≠ .invalidate)
    (hkey : ∀ op ∈ ops, ∀ now k v, op = .set now k v → k ∈ K) (x : Nat) :
    (Lru.run (Lru.init max 0) ops).ns.valOf x = applySets (fun _ => none) ops x := by
  suffices ∀ c : Lru, NoLossInv max K c →
      (Lru.run c ops).ns.valOf x = applySets c.ns.valOf ops x from
    this _ ⟨C15_ttl_ns_inv_init max 0, rfl, rfl, fun _ h => nomatch h⟩
  induction ops with
  | nil => intro c _; rfl
  | cons op ops ih =>
    intro c hc
    obtain ⟨h1, h2⟩ := C15_ttl_no_put_lost_step max K hcap c op hc
      (hinv op List.mem_cons_self) (hkey op List.mem_cons_self)
    have := ih (fun o ho => hinv o (List.mem_cons_of_mem _ ho))
      (fun o ho => hkey o (List.mem_cons_of_mem _ ho)) (c.step op) h1
    show (Lru.run (c.step op) ops).ns.valOf x = _
    rw [this, funext h2]
    cases op <;> rfl

/-- Non-vacuity: three keys, cap 3, interleaved reads — the last write of each key is visible. -/
example :
    let ops : List Op := [.set 0 1 10, .set 1 2 20, .get 2 1, .set 3 1 11, .set 4 3 30, .contains 5 2]
    applySets (fun _ => none) ops 1 = some 11 ∧
    (Lru.run (Lru.init 3 0) ops).ns.valOf 1 = some 11 ∧ (Lru.run (Lru.init 3 0) ops).ns.valOf 2 = some 20 := by
  decide +kernel

/-! ## Non-vacuity -/

/-- TTL 5: written at 0, still served at 5, expired (and removed) at 6. -/
example :
    let c := Lru.run (Lru.init 3 5) [.set 0 1 10]
    (c.get 5 1).2 = some 10 ∧ (c.get 6 1).2 = none ∧ (c.get 6 1).1.ns.items = [] := by decide +kernel

/-- Cap 2: the third key evicts the oldest; a `get` in between changes who is oldest. -/
example :
    (Lru.run (Lru.init 2 0) [.set 0 1 10, .set 0 2 20, .get 1 1, .set 2 3 30]).ns.items.map Entry.key = [1, 3] ∧
    (Lru.run (Lru.init 2 0) [.set 0 1 10, .set 0 2 20, .get 1 1, .set 2 3 30]).evicted = 1 := by decide +kernel

/-- Two namespaces with cap 1 hold one entry each. -/
example :
    let m := Mgr.run (Mgr.init 1 0) [.set 0 0 1 10, .set 1 0 1 11, .set 0 1 2 20]
    m.size = 2 ∧ (m.get 0 2 2).2 = some 20 ∧ (m.get 1 2 1).2 = some 11 ∧ (m.get 0 2 1).2 = none ∧
    m.invB = true := by decide +kernel

end Clem.TtlLru
