import Clem.Proofs.LruBytes
import Clem.Proofs.Fold

/-!
# C15 — `LRUBytes` (entry- and byte-bounded LRU)

Property theorems (helper lemmas live in `Clem/Proofs/*`).  Every theorem is
about the executable definitions in `Clem/Model/LruBytes.lean` that the driver runs against
`clematis/engine/util/lru_bytes.py`.
-/

namespace Clem.LruBytes

/-- The empty cache satisfies the invariant. -/
theorem C15_lrubytes_inv_init (maxE maxB : Nat) : Inv (init maxE maxB) :=
  ⟨List.nodup_nil, rfl, fun _ => Nat.zero_le _, fun _ => Int.natCast_nonneg _, fun _ => rfl⟩

/-- `get` preserves the invariant (capacity, exact byte accounting, unique keys). -/
theorem C15_lrubytes_inv_get (s : State) (k : Nat) (h : Inv s) : Inv (get s k).1 := by
  unfold get
  split
  · exact h
  · next e he =>
    obtain ⟨h1, h2, h3, h4, h5⟩ := h
    have hs := sumCost_without_some h1 he
    have hl : (without k s.items).length < s.items.length := KeyedList.length_filter_lt he
    refine ⟨KeyedList.nodup_keys_reinsert h1 (KeyedList.find?_some he).2, ?_, fun hp => ?_, h4,
      fun hd => ?_⟩
    · show s.bytes = _
      rw [h2, hs, sumCost_append, sumCost_cons, sumCost_nil, Nat.add_zero, Nat.add_comm]
    · show (without k s.items ++ [e]).length ≤ s.maxE
      rw [List.length_append]; exact Nat.le_trans hl (h3 hp)
    · rw [h5 hd] at he; cases he

/-- The loop never empties the list `put` hands it when the appended entry fits the byte cap: it
stops before consuming that entry.  (The survivors are a suffix, so they end with it:
`C15_lrubytes_put_keeps_key`.) -/
theorem evictLoop_keeps_last (maxE maxB : Nat) (p : List Entry) (x : Entry)
    (hx : 0 < maxB → x.cost ≤ maxB) :
    (evictLoop maxE maxB (p ++ [x]) (sumCost (p ++ [x]) : Int)).1 ≠ [] := by
  induction p with
  | nil =>
    -- a single entry neither exceeds an entry cap ≥ 1 nor, by `hx`, the byte cap
    rw [List.nil_append, evictLoop, if_neg, sumCost_cons, sumCost_nil]
    · exact List.cons_ne_nil _ _
    · rw [sumCost_cons, sumCost_nil, List.length_singleton]
      rintro (⟨h1, h2⟩ | ⟨h1, h2⟩)
      · omega
      · have := hx h1; omega
  | cons a p ih =>
    rw [List.cons_append, evictLoop]
    split
    · rw [sumCost_cons, Int.natCast_add, Int.add_comm, Int.add_sub_cancel]; exact ih
    · exact List.cons_ne_nil _ _

/-- An accepted `put` never leaves the cache empty. -/
theorem put_items_ne_nil {s : State} (k v : Nat) (c : Int) (h1 : (s.items.map Entry.key).Nodup)
    (h2 : s.bytes = (sumCost s.items : Int)) (hen : ¬(s.maxE = 0 ∧ s.maxB = 0))
    (hfit : ¬(0 < s.maxB ∧ s.maxB < c.toNat)) : (put s k v c).1.items ≠ [] := by
  rw [put_accepted s k v c (not_or.mpr ⟨hen, hfit⟩), bytesWithout_add k v c.toNat h1 h2]
  exact evictLoop_keeps_last s.maxE s.maxB (without k s.items) ⟨k, v, c.toNat⟩
    fun hp => Nat.le_of_not_lt fun hlt => hfit ⟨hp, hlt⟩

/-- Oversized items are rejected and leave the cache exactly as it was. -/
theorem C15_lrubytes_rejects_oversized (s : State) (k v : Nat) (c : Int)
    (h : 0 < s.maxB ∧ s.maxB < c.toNat) : put s k v c = (s, []) :=
  put_rejected s k v c (.inr h)

/-- `put` preserves the invariant. -/
theorem C15_lrubytes_inv_put (s : State) (k v : Nat) (c : Int) (h : Inv s) :
    Inv (put s k v c).1 := by
  by_cases hrej : (s.maxE = 0 ∧ s.maxB = 0) ∨ (0 < s.maxB ∧ s.maxB < c.toNat)
  · rw [put_rejected s k v c hrej]; exact h
  have hne := put_items_ne_nil k v c h.1 h.2.1 (hrej ∘ .inl) (hrej ∘ .inr)
  have hnd : ((without k s.items ++ [(⟨k, v, c.toNat⟩ : Entry)]).map Entry.key).Nodup :=
    KeyedList.nodup_keys_reinsert h.1 rfl
  have hspec := evictLoop_spec s.maxE s.maxB (without k s.items ++ [⟨k, v, c.toNat⟩])
    (bytesWithout s k + c.toNat)
  rw [put_accepted s k v c hrej] at hne ⊢
  generalize evictLoop s.maxE s.maxB (without k s.items ++ [⟨k, v, c.toNat⟩])
    (bytesWithout s k + c.toNat) = r at hne hspec ⊢
  obtain ⟨e1, e2, e3⟩ := hspec
  rw [e1, List.map_append, List.nodup_append] at hnd
  refine ⟨hnd.2.1, ?_, (e3 hne).1, (e3 hne).2, fun hd => absurd (.inl hd) hrej⟩
  -- the loop's total is the reinserted list's cost less the evicted prefix's
  show r.2.1 = (sumCost r.1 : Int)
  rw [e2, bytesWithout_add k v c.toNat h.1 h.2.1, e1, sumCost_append, Int.natCast_add,
    Int.add_comm, Int.add_sub_cancel]

theorem C15_lrubytes_inv_clear (s : State) : Inv (clear s) :=
  ⟨List.nodup_nil, rfl, fun _ => Nat.zero_le _, fun _ => Int.natCast_nonneg _, fun _ => rfl⟩

theorem C15_lrubytes_inv_step (s : State) (op : Op) (h : Inv s) : Inv (step s op) := by
  cases op with
  | get k => exact C15_lrubytes_inv_get s k h
  | put k v c => exact C15_lrubytes_inv_put s k v c h
  | clear => exact C15_lrubytes_inv_clear s

/-- **Every reachable state** (any caps, any operation sequence, any length) is within
its entry cap and its byte cap, accounts bytes exactly and holds each key once. -/
theorem C15_lrubytes_inv_reachable (maxE maxB : Nat) (ops : List Op) :
    Inv (run (init maxE maxB) ops) :=
  Fold.foldl_invariant Inv step ops (fun s op _ => C15_lrubytes_inv_step s op)
    (C15_lrubytes_inv_init maxE maxB)

/-- The Boolean monitor the harness evaluates on the implementation's observable
state is the invariant. -/
theorem C15_lrubytes_monitor_iff (s : State) : invB s = true ↔ Inv s := by
  unfold invB Inv
  simp only [Bool.and_eq_true, Bool.or_eq_true, decide_eq_true_eq, beq_iff_eq, Bool.not_eq_true',
    Bool.and_eq_false_iff, List.isEmpty_iff, and_assoc, zero_or_iff, beq_eq_false_iff_ne, ne_eq]
  refine and_congr_right fun _ => and_congr_right fun _ => and_congr_right fun _ =>
    and_congr_right fun _ => ?_
  rw [← Decidable.not_and_iff_not_or_not, Decidable.or_iff_not_imp_left, Decidable.not_not]

/-- Eviction is strictly LRU-first: the evicted entries are a *prefix* of the
recency order (with the written key moved to the MRU end), the survivors are the
rest in unchanged order, and the reported totals are those of exactly that prefix. -/
theorem C15_lrubytes_evicts_lru_prefix (s : State) (k v : Nat) (c : Int)
    (hen : ¬(s.maxE = 0 ∧ s.maxB = 0)) (hfit : ¬(0 < s.maxB ∧ s.maxB < c.toNat)) :
    without k s.items ++ [⟨k, v, c.toNat⟩] = (put s k v c).2 ++ (put s k v c).1.items := by
  rw [put_accepted s k v c (not_or.mpr ⟨hen, hfit⟩)]
  exact (evictLoop_spec _ _ _ _).1

/-- The key just written is never evicted by its own `put` (Inv gives the byte total). -/
theorem C15_lrubytes_put_keeps_key (s : State) (k v : Nat) (c : Int) (h : Inv s)
    (hen : ¬(s.maxE = 0 ∧ s.maxB = 0)) (hfit : ¬(0 < s.maxB ∧ s.maxB < c.toNat)) :
    lookup k (put s k v c).1.items = some ⟨k, v, c.toNat⟩ := by
  -- the survivors are a non-empty suffix of `without k items ++ [new]`, so they end with `new`
  have hlast : (put s k v c).1.items.getLast? = some ⟨k, v, c.toNat⟩ := by
    have := congrArg List.getLast? (C15_lrubytes_evicts_lru_prefix s k v c hen hfit)
    rw [List.getLast?_concat, List.getLast?_append] at this
    cases hg : (put s k v c).1.items.getLast? with
    | none => exact absurd (List.getLast?_eq_none_iff.mp hg) (put_items_ne_nil k v c h.1 h.2.1 hen hfit)
    | some x => rw [hg] at this; exact this.symm
  exact KeyedList.find?_of_mem (key := Entry.key) (C15_lrubytes_inv_put s k v c h).1
    (List.mem_of_getLast? hlast)

/-- Both caps zero ⇒ the cache is disabled: no operation sequence changes it and
every `get` misses. -/
theorem C15_lrubytes_disabled (ops : List Op) (k : Nat) :
    run (init 0 0) ops = init 0 0 ∧ (get (run (init 0 0) ops) k).2 = none := by
  have h : run (init 0 0) ops = init 0 0 :=
    Fold.foldl_fixed step _ ops (fun op _ => by cases op <;> rfl)
  rw [h]; exact ⟨rfl, rfl⟩

/-- Non-vacuity: a concrete sequence reaches a full cache, evicts the LRU entry on
the next `put`, and the invariant's premises are met by a non-trivial state. -/
example :
    let s := run (init 2 10) [.put 1 5 4, .put 2 6 4, .get 1]
    s.items.map Entry.key = [2, 1] ∧ (put s 3 7 4).2 = [⟨2, 6, 4⟩] ∧
    (put s 3 7 4).1.items.map Entry.key = [1, 3] ∧ invB (put s 3 7 4).1 = true := by
  decide +kernel

end Clem.LruBytes
