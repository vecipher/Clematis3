import Clem.Gen.Locks
import Clem.Props.C15.LruBytes
import Clem.Props.C15.TtlLru
import Clem.Props.C15.Sched

/-!
# C15 — lock wrappers `ThreadSafeCache` / `ThreadSafeBytesCache`

1. Structural obligation, regenerated from the AST of `clematis/engine/cache.py` on every check
   (`Clem/Gen/Locks.lean`) and decided by the kernel: every wrapper method is, in its entirety, one
   `with self._lock:` block around the inner call; the lock is an `RLock` fixed at construction.
   Under mutual exclusion of `RLock` (trusted) a wrapper call is therefore one atomic step of the
   wrapped container.
2. Consequences via `Clem.Sched`: the reachable states of `n` threads are the sequential results of
   the interleavings, so the capacity / accounting invariants hold under **every** schedule, no
   operation is lost, and a completed `put` is visible.
-/

namespace Clem.Wrappers

open Clem.Sched

/-- Every method of both wrappers holds the lock over its whole body; none of the expected methods
(`get`, `put`, `__contains__`, `items`) is missing; `__init__` installs the caller's lock or a fresh
`RLock`; no method rebinds the lock or the wrapped cache. -/
theorem C15_wrappers_whole_body_locked :
    Clem.Gen.Locks.table.all (fun r => r.2.2) = true ∧
    Clem.Gen.Locks.table.length ≥ 8 ∧
    Clem.Gen.Locks.missing.isEmpty = true ∧
    Clem.Gen.Locks.initCreatesRLock = true ∧
    Clem.Gen.Locks.rebindsLockOrInner = false := by decide +kernel

/-- `ThreadSafeBytesCache(LRUBytes)`: under every schedule of every family of thread programs the
cache stays within both caps, accounts bytes exactly and holds each key once — at every
intermediate point, not only at the end. -/
theorem C15_wrapper_lrubytes_inv_all_schedules (maxE maxB : Nat)
    (ps ps' : List (List Clem.LruBytes.Op)) (s' : Clem.LruBytes.State)
    (hr : Reach Clem.LruBytes.step (Clem.LruBytes.init maxE maxB) ps s' ps') :
    Clem.LruBytes.Inv s' :=
  C15_sched_invariant_all_schedules Clem.LruBytes.step Clem.LruBytes.Inv
    Clem.LruBytes.C15_lrubytes_inv_step (Clem.LruBytes.C15_lrubytes_inv_init maxE maxB) hr

/-- `ThreadSafeCache(LRUCache)`: same for the TTL LRU (any cap, any TTL, any clock readings). -/
theorem C15_wrapper_ttl_inv_all_schedules (max ttl : Int)
    (ps ps' : List (List Clem.TtlLru.Op)) (c' : Clem.TtlLru.Lru)
    (hr : Reach Clem.TtlLru.Lru.step (Clem.TtlLru.Lru.init max ttl) ps c' ps') :
    Clem.TtlLru.Ns.Inv c'.ns :=
  C15_sched_invariant_all_schedules Clem.TtlLru.Lru.step (fun c => Clem.TtlLru.Ns.Inv c.ns)
    Clem.TtlLru.C15_ttl_lru_inv_step (Clem.TtlLru.C15_ttl_ns_inv_init max ttl) hr

/-- The final state of a completed concurrent run of the wrapped `LRUBytes` is the sequential
result of an interleaving `m` in which every thread's operations appear exactly once and in
program order (nothing lost, nothing torn). -/
theorem C15_wrapper_lrubytes_linearizable (maxE maxB : Nat)
    (ps ps' : List (List Clem.LruBytes.Op)) (s' : Clem.LruBytes.State)
    (hr : Reach Clem.LruBytes.step (Clem.LruBytes.init maxE maxB) ps s' ps')
    (hd : ∀ p ∈ ps', p = []) :
    ∃ m, s' = Clem.LruBytes.run (Clem.LruBytes.init maxE maxB) m ∧ m.Perm ps.flatten ∧
      ∀ p ∈ ps, p.Sublist m := by
  obtain ⟨m, hm, he⟩ := (C15_sched_linearizable Clem.LruBytes.step _ s' ps).mp ⟨ps', hr, hd⟩
  exact ⟨m, he, C15_sched_interleave_perm hm, C15_sched_interleave_sublist hm⟩

/-- Same for the wrapped TTL LRU. -/
theorem C15_wrapper_ttl_linearizable (max ttl : Int)
    (ps ps' : List (List Clem.TtlLru.Op)) (c' : Clem.TtlLru.Lru)
    (hr : Reach Clem.TtlLru.Lru.step (Clem.TtlLru.Lru.init max ttl) ps c' ps')
    (hd : ∀ p ∈ ps', p = []) :
    ∃ m, c' = Clem.TtlLru.Lru.run (Clem.TtlLru.Lru.init max ttl) m ∧ m.Perm ps.flatten ∧
      ∀ p ∈ ps, p.Sublist m := by
  obtain ⟨m, hm, he⟩ := (C15_sched_linearizable Clem.TtlLru.Lru.step _ c' ps).mp ⟨ps', hr, hd⟩
  exact ⟨m, he, C15_sched_interleave_perm hm, C15_sched_interleave_sublist hm⟩

/-- **No completed put is lost under threads.**  `ThreadSafeCache(LRUCache)` with TTL off, no
`invalidate`, and room for every key the threads ever write (`K`): whatever the schedule, at the end
every key holds the value of the last `set` on it in the linearization `m` — an interleaving that
contains each thread's operations exactly once and in program order. -/
theorem C15_wrapper_no_put_lost (max : Int) (K : List Nat) (hcap : (K.length : Int) ≤ max)
    (ps ps' : List (List Clem.TtlLru.Op)) (c' : Clem.TtlLru.Lru)
    (hinv : ∀ p ∈ ps, ∀ op ∈ p, op ≠ Clem.TtlLru.Op.invalidate)
    (hkey : ∀ p ∈ ps, ∀ op ∈ p, ∀ now k v, op = Clem.TtlLru.Op.set now k v → k ∈ K)
    (hr : Reach Clem.TtlLru.Lru.step (Clem.TtlLru.Lru.init max 0) ps c' ps')
    (hd : ∀ p ∈ ps', p = []) :
    ∃ m, m.Perm ps.flatten ∧ (∀ p ∈ ps, p.Sublist m) ∧
      ∀ x, c'.ns.valOf x = Clem.TtlLru.applySets (fun _ => none) m x := by
  obtain ⟨m, he, hperm, hsub⟩ := C15_wrapper_ttl_linearizable max 0 ps ps' c' hr hd
  have hmem : ∀ op ∈ m, ∃ p ∈ ps, op ∈ p := fun op hop =>
    List.mem_flatten.mp (hperm.mem_iff.mp hop)
  refine ⟨m, hperm, hsub, fun x => ?_⟩
  rw [he]
  refine Clem.TtlLru.C15_ttl_no_put_lost max K hcap m (fun op hop => ?_) (fun op hop => ?_) x
  · obtain ⟨p, hp, hopp⟩ := hmem op hop; exact hinv p hp op hopp
  · obtain ⟨p, hp, hopp⟩ := hmem op hop; exact hkey p hp op hopp

/-- Non-vacuity: two threads on a wrapped `LRUBytes`, one concrete schedule. -/
example :
    let ps : List (List Clem.LruBytes.Op) := [[.put 1 10 2, .get 1], [.put 2 20 2]]
    Clem.LruBytes.invB (Clem.LruBytes.run (Clem.LruBytes.init 1 0) (applySchedule ps [0, 1, 0])) = true ∧
    (Clem.LruBytes.run (Clem.LruBytes.init 1 0) (applySchedule ps [0, 1, 0])).items.map (·.key) = [2] := by
  decide +kernel

end Clem.Wrappers
