import Clem.Proofs.ReflTail
import Clem.Gen.ReflTail

/-!
# C19 — Reflection is gated, budgeted and cannot disturb the turn

Property theorems about the executable model `Clem/Model/Refl.lean` (the definitions the driver runs
against `run_turn`).  `tail true` is the reflection tail of `run_turn` *with the repair* (fix e687d84,
`proposed_fixes/C19_clear_stale_reflection_stash.diff`: the stash a previous turn left on a reused
ctx is dropped before the gate call); `tail false` is the tail before it, for which the gate clause
is refuted by `C19_gate_fails_legacy` and holds only on a ctx without a stale stash
(`C19_gate_legacy_partial`).
-/

namespace Clem.Refl

/-! ## 1. Gate -/

/-- **Refl_gate.** Gate closed (not allowed ∨ not requested ∨ dry run) ⇒ `reflect` is not called,
nothing is handed to the index and no `t3_reflection` record is emitted — for *every* ctx state,
including one that still carries the result of an earlier turn. -/
theorem C19_gate (c : CtxSt) (t : TurnIn) (o : Oracles) (h : gateOpen t = false) :
    (tail true c t o).2.called = false ∧ (tail true c t o).2.written = [] ∧
      (tail true c t o).2.log = none :=
  tail_inert (.inl rfl) (gateCall_closed t o h)

/-- The gate monitor (the Boolean the driver evaluates on implementation observations). -/
def gateOk (x : (TurnIn × Oracles) × TurnOut) : Bool :=
  monGate x.1.1 x.2.called x.2.written.length x.2.log.isSome

theorem C19_gate_monitor (c : CtxSt) (t : TurnIn) (o : Oracles) :
    gateOk ((t, o), (tail true c t o).2) = true := by
  unfold gateOk monGate
  cases h : gateOpen t with
  | true => rfl
  | false =>
    obtain ⟨h1, h2, h3⟩ := C19_gate c t o h
    rw [h1, h2, h3]
    rfl

/-- **Refl_gate over histories**: along any sequence of turns, on a reused or a fresh ctx, starting
from any ctx state, every gated-off turn is inert. -/
theorem C19_gate_history (reuse : Bool) (c : CtxSt) (h : List (TurnIn × Oracles)) :
    ∀ x ∈ h.zip (runHist true reuse c h), gateOk x = true := by
  induction h generalizing c with
  | nil => intro x hx; simp [runHist] at hx
  | cons a r ih =>
    intro x hx
    simp only [runHist, List.zip_cons_cons] at hx
    rcases List.mem_cons.mp hx with hx | hx
    · subst hx; exact C19_gate_monitor c a.1 a.2
    · exact ih _ x hx

/-- Planner histories: a turn whose planner step ran and did not answer `reflection = true` (a fallback,
or an explicit `false`) and whose Plan object carries no flag is inert. -/
def plannerOk (x : (Option PlannerOut × TurnIn × Oracles) × TurnOut) : Bool :=
  match x.1.1 with
  | some (.answer true) => true
  | none => true
  | some _ => x.1.2.1.planFlag || (!x.2.called && x.2.written.isEmpty && x.2.log.isNone)

/-- **The plan leg of the gate follows THIS turn's planner answer**: on one long-lived state, whatever the
earlier turns asked for (any initial flag, any ctx state, reused or fresh ctx), a turn whose LLM planner
fell back or answered `reflection = false` computes, writes and logs nothing. -/
theorem C19_gate_planner_history (reuse : Bool) (f : Bool) (c : CtxSt)
    (h : List (Option PlannerOut × TurnIn × Oracles)) :
    ∀ x ∈ h.zip (runHistP true reuse f c h), plannerOk x = true := by
  induction h generalizing f c with
  | nil => intro x hx; simp [runHistP] at hx
  | cons a r ih =>
    intro x hx
    obtain ⟨p, t, o⟩ := a
    simp only [runHistP, List.zip_cons_cons] at hx
    rcases List.mem_cons.mp hx with hx | hx
    · subst hx
      -- a flag that is off after this turn's planner step leaves only the Plan object's own flag to open the gate
      have inert : ∀ q, flagAfter f (some q) = false →
          let out := (tail true c { t with stateFlag := flagAfter f (some q) } o).2
          (t.planFlag || (!out.called && out.written.isEmpty && out.log.isNone)) = true := by
        intro q hq
        rcases Bool.eq_false_or_eq_true t.planFlag with hp | hp
        · simp [hp]
        · obtain ⟨h1, h2, h3⟩ := C19_gate c { t with stateFlag := flagAfter f (some q) } o (by simp [gateOpen, hq, hp])
          simp [h1, h2, h3]
      cases p with
      | none => rfl
      | some q =>
        cases q with
        | fallback => exact inert .fallback rfl
        | answer b => cases b with
          | true => rfl
          | false => exact inert (.answer false) rfl
    · exact ih _ _ x hx

/-- The flag a turn sees does not depend on earlier turns once its own planner step ran. -/
theorem C19_planner_flag_this_turn (prev prev' : Bool) (p : PlannerOut) :
    flagAfter prev (some p) = flagAfter prev' (some p) ∧ flagAfter prev (some .fallback) = false := by
  cases p <;> simp [flagAfter]

def exCfg : Cfg :=
  { allow := true, backend := sRule, topk := 2, limit := 3, embed := false, opsCap := some 1,
    wallMs := some 5, fxEnabled := false, fxPathOk := false }

def exOr : Oracles :=
  { mode := .real, adapter := .missing, elapsedUs := 0, runFault := false, indexMissing := false,
    writeFault := false, addFail := [], logFault := false }

/-- "Hi, there" with snippets "A b" / "c"; `plan` is the plan's reflection flag. -/
def exTurn (plan : Bool) (turn : Nat) : TurnIn :=
  { agent := [97], turn := [48 + turn], nowMs := some 0, isoPreset := none, dry := false, t4on := true, planFlag := plan,
    stateFlag := false, cfg := exCfg, utter := [72, 105, 44, 32, 116, 104, 101, 114, 101],
    items := [[65, 32, 98], [99]], arts := [] }

/-- **Negation witness for the code before the repair** (DESIGN §5 #17): on a reused ctx, a turn whose plan
requests reflection followed by a turn whose plan does not — the second, gated-off turn writes the
first turn's entry again (under its own turn id) and logs a record. -/
theorem C19_gate_fails_legacy :
    ∃ h : List (TurnIn × Oracles), ∃ x ∈ h.zip (runHist false true CtxSt.fresh h), gateOk x = false :=
  ⟨[(exTurn true 1, exOr), (exTurn false 2, exOr)],
   ((exTurn false 2, exOr), (tail false (tail false CtxSt.fresh (exTurn true 1) exOr).1 (exTurn false 2) exOr).2),
   .tail _ (.head _), by decide +kernel⟩

example : gateOpen (exTurn false 2) = false ∧ gateOpen (exTurn true 1) = true := by decide +kernel

/-- … and the same history is inert under the repaired tail (non-vacuity of `C19_gate_history`). -/
example : (runHist true true CtxSt.fresh [(exTurn true 1, exOr), (exTurn false 2, exOr)]).map
    (fun o => (o.called, o.written.length, o.log.isSome)) = [(true, 1, true), (false, 0, false)] := by
  decide +kernel

/-- **`_partial` for the code before the repair**: the gate clause holds when the ctx carries no stale stash
(a fresh ctx per turn, which is what the bundled scripts build). -/
theorem C19_gate_legacy_partial (c : CtxSt) (t : TurnIn) (o : Oracles) (hc : c.stash = none)
    (h : gateOpen t = false) :
    (tail false c t o).2.called = false ∧ (tail false c t o).2.written = [] ∧
      (tail false c t o).2.log = none :=
  tail_inert (.inr hc) (gateCall_closed t o h)

/-! ## 2. Ops cap -/

/-- **Refl_ops_cap.** At most `max 0 ops_reflection` entries are handed to the index (none when the
cap is null), and never more than `reflect` produced; whatever the ctx state / repair flag. -/
theorem C19_ops_cap (clear : Bool) (c : CtxSt) (t : TurnIn) (o : Oracles) :
    (tail clear c t o).2.written.length ≤ capNat t.cfg.opsCap := by
  rcases tail_written clear c t o with h | ⟨res, ts, _, _, h⟩ <;> rw [h]
  · exact Nat.zero_le _
  · exact Nat.le_trans (writeEntries_length ..) (Nat.min_le_left ..)

theorem C19_ops_cap_zero (clear : Bool) (c : CtxSt) (t : TurnIn) (o : Oracles)
    (h : t.cfg.opsCap = none ∨ ∃ v, t.cfg.opsCap = some v ∧ v ≤ 0) :
    (tail clear c t o).2.written = [] := by
  have h0 : capNat t.cfg.opsCap = 0 := by
    rcases h with h | ⟨v, h, hv⟩ <;> rw [h]
    · rfl
    · exact Int.toNat_of_nonpos hv
  exact List.eq_nil_of_length_eq_zero (Nat.le_zero.mp (h0 ▸ C19_ops_cap clear c t o))

example : (tail true CtxSt.fresh { exTurn true 1 with cfg := { exCfg with opsCap := some 0 } } exOr).2.written = [] ∧
    (tail true CtxSt.fresh { exTurn true 1 with cfg := { exCfg with opsCap := none } } exOr).2.written = [] ∧
    (tail true CtxSt.fresh { exTurn true 1 with cfg := { exCfg with opsCap := some 3 } }
      { exOr with mode := .stub [120] [⟨[97], false⟩, ⟨[98], false⟩, ⟨[99], false⟩, ⟨[100], false⟩] }).2.written.length = 3 := by
  decide +kernel

/-- With the real `reflect`, a turn writes at most `min (max 0 opsCap) 1` entries. -/
theorem C19_ops_cap_real (c : CtxSt) (t : TurnIn) (o : Oracles) (hm : o.mode = .real) :
    (tail true c t o).2.written.length ≤ min (capNat t.cfg.opsCap) 1 := by
  rcases tail_written true c t o with h | ⟨res, ts, hs, _, h⟩ <;> rw [h]
  · exact Nat.zero_le _
  · rw [stashAfter_eq_gateCall (.inl rfl)] at hs
    obtain ⟨_, rfl⟩ := gateCall_some hs
    have h1 : (afterGate t o).entries.length ≤ 1 := by
      unfold afterGate callReflect
      rw [hm]
      cases hr : reflectReal t (gatherSnippets t) o.adapter with
      | error e => exact Nat.zero_le 1
      | ok r =>
        simp only
        split
        · exact Nat.zero_le 1
        · exact (reflectReal_entries hr).1
    exact Nat.le_trans (writeEntries_length t o ts (afterGate t o))
      (Nat.le_min.2 ⟨Nat.min_le_left .., Nat.le_trans (Nat.min_le_right ..) h1⟩)

/-! ## 3. Summary length -/

/-- **Refl_summary_len**, both backends: the summary of a successful real `reflect` has at most
`max 0 summary_tokens` whitespace tokens (the code's own `summary_len` measure).  For the llm
backend the adapter's *lookup* is arbitrary (`ad`), its token clipping is the modelled one. -/
theorem C19_summary_len (t : TurnIn) (snips : List Str) (ad : Adapter) (res : RResult)
    (h : reflectReal t snips ad = .ok res) :
    tokenCount res.summary ≤ (max 0 t.cfg.limit).toNat := by
  obtain ⟨s, fk, hs, rfl⟩ := reflectReal_ok h
  exact tokenCount_truncate_le _ _ hs

/-- The monitor form: every entry a real, successful `reflect` produces passes `monLen`. -/
theorem C19_summary_len_entries (t : TurnIn) (snips : List Str) (ad : Adapter) (res : RResult)
    (h : reflectReal t snips ad = .ok res) : ∀ e ∈ res.entries, monLen t.cfg.limit e.text = true := by
  intro e he
  rw [(reflectReal_entries h).2 e he]
  exact decide_eq_true (C19_summary_len t snips ad res h)

def exLlmTurn : TurnIn :=
  { exTurn true 1 with cfg := { exCfg with backend := sLlm, fxEnabled := true, fxPathOk := true, limit := 2 } }

/-- Non-vacuity: both backends do succeed (rule-based; llm with a three-token completion clipped to 2). -/
example : ∃ res, reflectReal (exTurn true 1) (gatherSnippets (exTurn true 1)) .missing = .ok res := ⟨_, rfl⟩
example : ∃ res, reflectReal exLlmTurn [] (.text [97, 10, 98, 32, 32, 99]) = .ok res ∧ res.summary = [97, 32, 98] :=
  ⟨_, rfl, by decide +kernel⟩

/-- `_truncate_tokens` alone does **not** bound whitespace tokens on arbitrary text (it splits on the
single space only): the bound for the llm backend rests on the adapter's clipping, which is why that
clipping is part of the model.  `"a\nb"` truncated to 1 token still has 2. -/
theorem C19_truncate_needs_clip : tokenCount (truncateTokens [97, 10, 98] 1) = 2 := by decide +kernel

example : tokenCount (ruleSummary [72, 105, 44, 32, 116, 104, 101, 114, 101] [[65, 32, 98], [99]] 2 3) = 3 := by
  decide +kernel
example : ruleSummary [72, 105, 44, 32, 116, 104, 101, 114, 101] [[65, 32, 98], [99]] 2 3
    = [104, 105, 32, 116, 104, 101, 114, 101, 32, 97] := by decide +kernel

/-! ## 4. Id and timestamp are functions of (agent, turn, slot, text) and the logical clock -/

/-- **Refl_id_pure.** Every episode handed to the index carries the turn's agent and turn id, the
ctx's logical timestamp (`now_iso`, derived once from `now_ms`), a slot below the cap, and the text
of the result entry at that slot — nothing else enters `_episode_id` / `ts` (no wall clock, no
elapsed time, no configuration, no fault script). -/
theorem C19_id_pure (clear : Bool) (c : CtxSt) (t : TurnIn) (o : Oracles) :
    ∀ w ∈ (tail clear c t o).2.written,
      w.agent = t.agent ∧ w.turn = t.turn ∧ some w.ts = tsOf (headIso c t) t.nowMs ∧
      w.slot < capNat t.cfg.opsCap ∧ w.text = strip w.idText := by
  intro w hw
  rcases tail_written clear c t o with h | ⟨res, ts, _, hts, h⟩ <;> rw [h] at hw
  · cases hw
  · rw [writeEntries_eq] at hw
    split at hw
    · cases hw
    · obtain ⟨j, e, hj, rfl⟩ := addLoop_mem hw
      have hlt := (List.getElem?_eq_some_iff.mp hj).1
      rw [List.length_take] at hlt
      exact ⟨rfl, rfl, hts.symm, (Nat.zero_add j).symm ▸ Nat.lt_of_lt_of_le hlt (Nat.min_le_left ..), rfl⟩

/-- No usable turn clock (`ctx.now_ms` is `None`): `_now_iso_from_ctx` raises inside the writer, the tail
swallows it and nothing is written — the writer never substitutes another clock. -/
theorem C19_ts_needs_clock (clear : Bool) (c : CtxSt) (t : TurnIn) (o : Oracles) (h : t.nowMs = none) :
    (tail clear c t o).2.written = [] := by
  rcases tail_written clear c t o with h' | ⟨_, _, _, hts, _⟩
  · exact h'
  · rw [h] at hts; cases hts

/-- The timestamp at the clock's origin is the epoch-derived value, as for any other `now_ms`
(non-vacuity of the `ts` clause at the boundary the smoke-turn ctx sits on). -/
example : tsOf (headIso CtxSt.fresh (exTurn true 1)) (some 0) = some (.iso 0) ∧
    tsOf (headIso CtxSt.fresh { exTurn true 1 with isoPreset := some .nonstr }) (some 0) = some (.fallback 0) ∧
    tsOf (headIso CtxSt.fresh { exTurn true 1 with isoPreset := some (.lit [90]) }) (some 7) = some (.lit [90]) := by
  decide +kernel

/-- The id the writer builds, with the sha256 digest as an arbitrary oracle `D`. -/
def episodeId (D : Str → Str → Nat → Str → Str) (w : Written) : Str × Str × Nat × Str :=
  (w.turn, w.agent, w.slot, D w.agent w.turn w.slot w.idText)

/-- Two written episodes (from any two runs, configurations, fault scripts, clocks) that agree on
agent, turn, slot and text have the same id, for every digest function. -/
theorem C19_id_function (D : Str → Str → Nat → Str → Str) (w w' : Written)
    (h : w.agent = w'.agent ∧ w.turn = w'.turn ∧ w.slot = w'.slot ∧ w.idText = w'.idText) :
    episodeId D w = episodeId D w' := by
  obtain ⟨h1, h2, h3, h4⟩ := h
  simp [episodeId, h1, h2, h3, h4]

/-- Wall-clock independence: two runs of a turn that differ only in the measured duration of
`reflect`, both on the same side of the budget, are indistinguishable (writes, ids, ts, log). -/
theorem C19_clock_indep (clear : Bool) (c : CtxSt) (t : TurnIn) (o : Oracles) (e : Nat)
    (h : overBudget t.cfg e = overBudget t.cfg o.elapsedUs) :
    tail clear c t { o with elapsedUs := e } = tail clear c t o := by
  have hg : gateCall t { o with elapsedUs := e } = gateCall t o := by
    unfold gateCall runReflection afterGate callReflect
    simp only [h]
  have hs : stashAfter clear c t { o with elapsedUs := e } = stashAfter clear c t o := by
    unfold stashAfter; rw [hg]
  unfold tail
  rw [hg, hs]
  cases t.dry && t.t4on
  · cases stashAfter clear c t o <;> rfl
  · rfl

example : overBudget exCfg 4999 = overBudget exCfg 0 ∧ overBudget exCfg 5000 = false ∧ overBudget exCfg 5001 = true := by
  decide +kernel

/-! ## 5. Fail-soft -/

/-- **Refl_failsoft.** `reflect` raises (any exception, injected or its own `ValueError`), the
fixture is missing / the adapter cannot be built / the completion is empty, the call overran its wall
budget, `_run_reflection_if_enabled` itself raises, the writer raises, or there is no index ⇒ nothing
is handed to the index. -/
theorem C19_failsoft (c : CtxSt) (t : TurnIn) (o : Oracles) (h : failed t o = true) :
    (tail true c t o).2.written = [] := by
  rcases tail_written true c t o with h' | ⟨res, ts, hs, _, h'⟩
  · exact h'
  · rw [stashAfter_eq_gateCall (.inl rfl)] at hs
    obtain ⟨hrf, rfl⟩ := gateCall_some hs
    rw [h', writeEntries_eq]
    unfold failed at h
    rw [hrf, Bool.false_or, Bool.or_eq_true] at h
    rcases h with h | h
    · rw [h]; rfl
    · have he : (afterGate t o).entries = [] := by
        unfold afterGate
        split at h
        · rfl
        · simp only [h, if_true]
      rw [he, List.take_nil]
      split <;> rfl

/-- A failing telemetry writer changes nothing but the telemetry line. -/
theorem C19_failsoft_log (clear : Bool) (c : CtxSt) (t : TurnIn) (o : Oracles) (b : Bool) :
    (tail clear c t { o with logFault := b }).2.written = (tail clear c t o).2.written ∧
    (tail clear c t { o with logFault := b }).2.called = (tail clear c t o).2.called ∧
    (tail clear c t { o with logFault := b }).1 = (tail clear c t o).1 := by
  have hg : gateCall t { o with logFault := b } = gateCall t o := rfl
  have hs : stashAfter clear c t { o with logFault := b } = stashAfter clear c t o := rfl
  unfold tail
  rw [hg, hs]
  split
  · exact ⟨rfl, rfl, rfl⟩
  · cases stashAfter clear c t o <;> exact ⟨rfl, rfl, rfl⟩

example : failed (exTurn true 1) { exOr with elapsedUs := 5001 } = true := by decide +kernel
example : failed (exTurn true 1) { exOr with mode := .raise [75] } = true := by decide +kernel
example : failed { exTurn true 1 with cfg := { exCfg with backend := sLlm, fxEnabled := true, fxPathOk := true } }
    exOr = true := by decide +kernel
example : (tail true CtxSt.fresh (exTurn true 1) exOr).2.written.length = 1 := by decide +kernel

/-! ## 6. Isolation -/

/-- **Refl_isolation.** Whatever reflection did this turn (ran, failed, timed out, was gated off),
the records of every other stream — T1/T2/T3/T4/apply before the tail, health and the turn summary
after it — and the returned line are those of the skeleton alone: the tail only appends to its own
stream (and to the index).  In the model this is structural; on the code it is the differential
on-vs-off run of the real `run_turn` that decides. -/
theorem C19_isolation {ρ : Type} (sk : Skeleton ρ) (out : TurnOut) :
    nonReflection (emitted sk out) = sk.pre ++ sk.post := by
  unfold emitted
  rw [nonReflection_append, nonReflection_append, nonReflection_other, nonReflection_other]
  cases out.log <;> simp [nonReflection]

theorem C19_isolation_on_off {ρ : Type} (sk : Skeleton ρ) (c c' : CtxSt) (t t' : TurnIn) (o o' : Oracles) :
    nonReflection (emitted sk (tail true c t o).2) = nonReflection (emitted sk (tail true c' t' o').2) := by
  rw [C19_isolation, C19_isolation]

/-! ## 7. The source of `run_turn` has the shape the model assumes (table regenerated from the AST) -/

open Clem.Gen.ReflTail in
/-- Position of the first top-level statement of `run_turn` with property `p` (`stmts.length` if none). -/
def srcPos (p : Clem.Gen.ReflTail.Stmt → Bool) : Nat := Clem.Gen.ReflTail.stmts.findIdx p

open Clem.Gen.ReflTail in
/-- Every top-level statement of `run_turn` that calls the gate, the writer or the telemetry logger is a
`try` whose handler catches `Exception` without re-raising, contains no `return`, and appends to no log
stream of its own (the only reflection stream is written through `log_t3_reflection`). -/
theorem C19_src_tail_guarded :
    ∀ s ∈ stmts, (s.callsGate || s.callsWrite || s.callsLog) = true →
      (s.guarded && !s.hasReturn && !s.hasRaise && !s.appendsAny) = true := by decide +kernel

open Clem.Gen.ReflTail in
/-- Order of the tail in the source: apply record ≺ stale-stash clear (the repair) ≺ gate call ≺ write
step ≺ telemetry ≺ health ≺ turn summary, each present exactly where the model puts it; the stash is
read by no statement before the clear. -/
theorem C19_src_tail_order :
    srcPos (·.appendsApply) < srcPos (·.clearsStash) ∧
    srcPos (·.clearsStash) < srcPos (·.callsGate) ∧
    srcPos (·.callsGate) < srcPos (·.callsWrite) ∧
    srcPos (·.callsWrite) < srcPos (·.callsLog) ∧
    srcPos (·.callsLog) < srcPos (·.callsHealth) ∧
    srcPos (·.callsHealth) < srcPos (fun s => s.appendsTurn && !s.hasReturn) ∧
    srcPos (fun s => s.appendsTurn && !s.hasReturn) < stmts.length ∧
    srcPos (·.readsStash) = srcPos (·.clearsStash) := by decide +kernel

open Clem.Gen.ReflTail in
/-- Exactly one statement each calls the gate / the writer / the logger. -/
theorem C19_src_tail_unique :
    (stmts.filter (·.callsGate)).length = 1 ∧ (stmts.filter (·.callsWrite)).length = 1 ∧
    (stmts.filter (·.callsLog)).length = 1 := by decide +kernel

end Clem.Refl
