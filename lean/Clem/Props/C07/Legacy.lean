/-
C07 on the PINNED tree: the round-trip law is false for the codec as it was.  One machine-checked
counterexample per defect class (the same inputs are in `corpus/C07`, they fail on the unpatched
code and pass on the repaired one).  `Clem.DeltaLegacy` is the codec before
`proposed_fixes/C07_delta_paths_and_strict_leaves.diff`.
-/
import Clem.Model.DeltaLegacy

namespace Clem.Props.C07
open Clem.Py Clem.Py.J Clem.DeltaLegacy

/-- `{} → {"a.b": 1}` is rebuilt as `{"a": {"b": 1}}`. -/
theorem C07_legacy_fails_dotted_key :
    applyDelta (.obj []) (computeDelta (.obj []) (.obj [([97, 46, 98], .int 1)]))
      = [([97], .obj [([98], .int 1)])] := by decide +kernel

/-- `{"a.b": 1, "a": {"b": 2}} → {"a": {"b": 2}}`: the dotted key survives, the nested one is lost. -/
theorem C07_legacy_fails_dotted_delete :
    applyDelta (.obj [([97, 46, 98], .int 1), ([97], .obj [([98], .int 2)])])
      (computeDelta (.obj [([97, 46, 98], .int 1), ([97], .obj [([98], .int 2)])]) (.obj [([97], .obj [([98], .int 2)])]))
      = [([97, 46, 98], .int 1), ([97], .obj [])] := by decide +kernel

/-- `{} → {"": 1}` is rebuilt as `{}`. -/
theorem C07_legacy_fails_empty_key :
    applyDelta (.obj []) (computeDelta (.obj []) (.obj [([], .int 1)])) = [] := by decide +kernel

/-- `{"a": 1} → {"a": true}` and `{"a": 0.0} → {"a": -0.0}` are rebuilt as the base. -/
theorem C07_legacy_fails_pyeq_leaf :
    applyDelta (.obj [([97], .int 1)]) (computeDelta (.obj [([97], .int 1)]) (.obj [([97], .bool true)]))
      = [([97], .int 1)] ∧
    applyDelta (.obj [([97], .flt 0)]) (computeDelta (.obj [([97], .flt 0)]) (.obj [([97], .flt 9223372036854775808)]))
      = [([97], .flt 0)] := by decide +kernel

/-- hence the full-strength law fails for the pinned codec. -/
theorem C07_legacy_roundtrip_fails :
    ∃ base cur : J, wf base = true ∧ wf cur = true ∧
      eqv (.obj (applyDelta base (computeDelta base cur))) cur = false :=
  ⟨.obj [], .obj [([97, 46, 98], .int 1)], by decide +kernel⟩

end Clem.Props.C07
