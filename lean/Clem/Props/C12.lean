import Clem.Proofs.T1Hist
import Clem.Proofs.T1Budget
import Clem.Proofs.T1Out
import Clem.Proofs.T1Mon

/-!
# C12 — Propagation follows the documented spreading rule within its budgets

Property theorems about the executable model `Clem.T1` of `t1_propagate` (the same definitions the
driver runs at `Float` against the real code).  All statements are for an arbitrary number carrier
`[Num α]` with no algebraic assumptions — they speak about which operations are applied to which
operands in which order — so they hold verbatim for the executed `Float` instance.
`finalSt c g text` is the state of one graph's run when the `while` loop exits; `oneGraph` is the
per-graph result (`deltas`, counters); `t1` folds the active graphs.
-/

namespace Clem.T1
open Num

variable {α : Type} [Num α]
set_option linter.unusedSectionVars false

/-! ## a small concrete instance for non-vacuity (carrier `Int`) -/

/-- chain `0 →(2) 1 →(3) 2`, node 0 labelled "a", node 2 tagged "b". -/
def exGraph : Graph Int :=
  { gid := 0
    nodes := [⟨0, [97], []⟩, ⟨1, [], []⟩, ⟨2, [], [[98], []]⟩]
    edges := [⟨0, 1, 2, 0⟩, ⟨1, 2, 3, 0⟩] }

def exCfg : Cfg Int :=
  { queueBudget := 10, nodeBudget := 100, radiusCap := 4, iterCap := 50, iterCapLayers := 50
    relaxCap := some 5, sliceIters := none, slicePops := some 7
    perfEnabled := true, metricsEnabled := true, frontierCap := 3, visitedCap := 2, dedupeWindow := 2
    decay := some ⟨false, some 1, some 0, none⟩, edgeMult := [(0, 1)], eps := 1, cacheOn := false }

/-- text "xA" -/
def exText : List Nat := [120, 65]

/-! ## seeds -/

/-- **Seeds characterisation.** A node is seeded iff one of its keywords — its non-empty label or a
non-empty string tag — occurs (case-insensitively, as a substring) in the text. -/
theorem C12_seeds (g : Graph α) (text : List Nat) (nid : Nat) :
    nid ∈ seedsOf g text ↔
      ∃ n ∈ g.nodes, n.id = nid ∧ ∃ kw, kw ≠ [] ∧ (kw = n.label ∨ kw ∈ n.tags) ∧
        lower kw <:+: lower text := by
  unfold seedsOf
  rw [mem_matchKeywords]
  constructor
  · rintro ⟨kw, hm, hk⟩
    obtain ⟨n, hn, hid, hne, hor⟩ := (mem_collectLabels g nid kw).mp hm
    exact ⟨n, hn, hid, kw, hne, hor, ((kwMatch_iff text kw).mp hk).2⟩
  · rintro ⟨n, hn, hid, kw, hne, hor, hinf⟩
    exact ⟨kw, (mem_collectLabels g nid kw).mpr ⟨n, hn, hid, hne, hor⟩,
      (kwMatch_iff text kw).mpr ⟨hne, hinf⟩⟩

/-- each seed is queued once -/
theorem C12_seeds_nodup (g : Graph α) (text : List Nat) : (seedsOf g text).Nodup :=
  nodup_matchKeywords _ _

/-- the seeds monitor evaluated by the driver on the seeds observed on the real run holds on the model -/
theorem C12_seeds_monitor (g : Graph α) (text : List Nat) :
    seedsOk g text (seedsOf g text) = true := by
  unfold seedsOk
  simp only [Bool.and_eq_true, List.all_eq_true, Bool.or_eq_true, Bool.not_eq_true',
    List.contains_iff_mem]
  have hspec : ∀ nid, seedSpec g text nid = true ↔ nid ∈ seedsOf g text := by
    intro nid
    unfold seedSpec seedsOf
    rw [mem_matchKeywords, List.any_eq_true]
    constructor
    · rintro ⟨⟨n, kw⟩, hm, hp⟩
      simp only [Bool.and_eq_true, beq_iff_eq] at hp
      obtain ⟨h1, h2⟩ := hp
      subst h1
      exact ⟨kw, hm, h2⟩
    · rintro ⟨kw, hm, hk⟩
      exact ⟨(nid, kw), hm, by rw [beq_iff_eq.mpr rfl, Bool.true_and]; exact hk⟩
  refine ⟨fun x hx => (hspec x).mpr hx, ?_⟩
  intro n _
  cases h : seedSpec g text n.id with
  | false => exact Or.inl rfl
  | true => exact Or.inr ((hspec n.id).mp h)

example : seedsOf exGraph exText = [0] := by decide +kernel
example : seedsOf exGraph [66, 97] = [0, 2] := by decide +kernel

/-! ## the spreading rule -/

/-- **Spreading rule.** Every relaxation in the log of a run is
`contrib = ((w * weight) * mult) * decay(d)` over a real out-edge `src → dst` of the graph, with
`mult` the relation multiplier of that edge (default `0.6`), `d = dist(src) + 1` within the radius cap
and the effective layer cap (slice cap included), and `|contrib| ≥ EPS`. -/
theorem C12_rule (c : Cfg α) (g : Graph α) (text : List Nat) (l : LogE α)
    (h : Ev.relax l ∈ (finalSt c g text).evs) : RuleOK c g l := by
  obtain ⟨_, _, _, hok⟩ := EvsOK_mem (Hist_final c g text).evs h
  exact hok.1

/-- … and `w` is the activation popped with the node being expanded, the recorded new accumulator value
is the old one plus the contribution. -/
theorem C12_rule_context (c : Cfg α) (g : Graph α) (text : List Nat) (l : LogE α)
    (h : Ev.relax l ∈ (finalSt c g text).evs) :
    ∃ pre rest, (finalSt c g text).evs = pre ++ Ev.relax l :: rest ∧
      lastPop rest = some (l.src, l.w) ∧ l.accNew = add (accOf rest l.dst) l.contrib := by
  obtain ⟨pre, rest, heq, hok⟩ := EvsOK_mem (Hist_final c g text).evs h
  exact ⟨pre, rest, heq, hok.2.2, hok.2.1⟩

/-- Every popped pair `(u, w)` is a seed with weight `1.0` or a contribution pushed earlier into `u`;
every push is the contribution of the relaxation made just before it. -/
theorem C12_pop_push_origin (c : Cfg α) (g : Graph α) (text : List Nat) :
    (∀ u w, Ev.pop u w ∈ (finalSt c g text).evs →
      ∃ pre rest, (finalSt c g text).evs = pre ++ Ev.pop u w :: rest ∧
        ((w = one ∧ u ∈ seedsOf g text) ∨ ∃ a, Ev.push u w a ∈ rest)) ∧
    (∀ v x a, Ev.push v x a ∈ (finalSt c g text).evs →
      ∃ pre l rest, (finalSt c g text).evs = pre ++ Ev.push v x a :: Ev.relax l :: rest ∧
        l.dst = v ∧ l.contrib = x) := by
  refine ⟨?_, ?_⟩
  · intro u w h
    obtain ⟨pre, rest, heq, hok⟩ := EvsOK_mem (Hist_final c g text).evs h
    exact ⟨pre, rest, heq, hok⟩
  · intro v x a h
    obtain ⟨pre, rest, heq, hok⟩ := EvsOK_mem (Hist_final c g text).evs h
    obtain ⟨_, _, l, r', hr, hd, hx⟩ := hok
    exact ⟨pre, l, r', by rw [heq, hr], hd, hx⟩

/-- the decay factor is defined for every configuration — an absent, `None` or partial `t1.decay` falls back
to the defaults of the code (exp_floor, rate 0.6, floor 0.05, alpha 0.8), it no longer raises -/
theorem C12_decay_total (c : Cfg α) (d : Nat) : (decayOf c d).isSome = true := by
  unfold decayOf
  split <;> rfl

example : decayOf { exCfg with decay := none } 2 = some (pymax (powNat (ofDec 6 1 : Int) 2) (ofDec 5 2)) := rfl

/-- **The rule monitor is a consequence of the rule**: the Boolean `traceRuleOk` that the driver evaluates
on the heap trace (pops/pushes with operands) of the REAL run holds on the heap trace of every model run,
for every carrier whose representation equality is reflexive. -/
theorem C12_rule_monitor (hrefl : ∀ a : α, eqb a a = true) (c : Cfg α) (g : Graph α) (text : List Nat) :
    traceRuleOk c g none (heapTraceOf (finalSt c g text).evs) = true :=
  traceRuleOk_model hrefl c g _ _ (Hist_final c g text).evs

/-- … in particular at the executed `Float` instance (bit equality). -/
theorem C12_rule_monitor_float (c : Cfg Float) (g : Graph Float) (text : List Nat) :
    traceRuleOk c g none (heapTraceOf (finalSt c g text).evs) = true :=
  C12_rule_monitor (fun a => by simp [Num.eqb]) c g text

/-- **Accumulator.** For every node, the accumulated value is `0.0`, `+ 1.0` if the node was seeded,
`+` every logged contribution into it, added in log order. -/
theorem C12_acc (c : Cfg α) (g : Graph α) (text : List Nat) (v : Nat) :
    accGet (finalSt c g text).acc v = accOf (finalSt c g text).evs v :=
  (Hist_final c g text).acc v

/-! ## reach -/

/-- **Reach.** Every reported node is reachable from a seed by a walk whose length is its recorded
distance; the distance is 0 (a seed) or within both the radius cap and the effective layer cap. -/
theorem C12_reach (c : Cfg α) (g : Graph α) (text : List Nat) (id : Nat)
    (h : id ∈ (oneGraph c g text).deltas) :
    ∃ d, Reach g (seedsOf g text) id d ∧
      (d = 0 ∨ ((d : Int) ≤ c.radiusCap ∧ (d : Int) ≤ effLayers c)) := by
  unfold oneGraph at h
  dsimp only at h
  split at h
  · simp at h
  · obtain ⟨x, hm, _⟩ := (mem_deltasOf c _ id).mp h
    have hinv := ReachInv_final c g text
    have hk : id ∈ (finalSt c g text).acc.map (·.1) := List.mem_map.mpr ⟨(id, x), hm, rfl⟩
    obtain ⟨d, hd⟩ := Option.isSome_iff_exists.mp (hinv.acc id hk)
    exact ⟨d, hinv.dist id d hd⟩

/-- the same for every touched node (accumulator key), and `dist[u]` is defined for every queued node
(the code's `dist[u] + 1` cannot raise `KeyError`). -/
theorem C12_touched_reach (c : Cfg α) (g : Graph α) (text : List Nat) :
    (∀ k ∈ (finalSt c g text).acc.map (·.1), ∃ d, (finalSt c g text).dist.lookup k = some d ∧
      Reach g (seedsOf g text) k d ∧
      (d = 0 ∨ ((d : Int) ≤ c.radiusCap ∧ (d : Int) ≤ effLayers c))) ∧
    (∀ it ∈ (finalSt c g text).pq, ((finalSt c g text).dist.lookup it.id).isSome) := by
  have hinv := ReachInv_final c g text
  refine ⟨?_, hinv.pq⟩
  intro k hk
  obtain ⟨d, hd⟩ := Option.isSome_iff_exists.mp (hinv.acc k hk)
  exact ⟨d, hd, hinv.dist k d hd⟩

example : ∃ d, Reach exGraph (seedsOf exGraph exText) 2 d := ⟨2,
  Reach.step (g := exGraph) ⟨1, 2, 3, 0⟩ (Reach.step (g := exGraph) ⟨0, 1, 2, 0⟩
    (Reach.seed (by decide)) (by simp [exGraph]) rfl) (by simp [exGraph]) rfl⟩

/-! ## budgets -/

/-- **Budgets** (the monitor `budgetOk` evaluated by the driver on the implementation's counters):
`pops ≤ max(0, effective queue budget)` with `effQueue = min(queue_budget, slice t1_pops)`;
`iters ≤ max(0, effective layers)` with `effLayers = min(iter_cap_layers, iter_cap, slice t1_iters)`;
`propagations ≤ max(relax_cap, 0)` when a relaxation cap is configured (full strength; holds for the
code with the pre-check fix `proposed_fixes/C12_relax_cap_precheck.diff` — the unpatched code
made one relaxation at `relax_cap = 0`). -/
theorem C12_budgets (c : Cfg α) (g : Graph α) (text : List Nat) :
    budgetOk c (oneGraph c g text).pops (oneGraph c g text).iters (oneGraph c g text).props = true := by
  obtain ⟨hp, hi, hr⟩ := oneGraph_le c g text
  unfold budgetOk
  simp only [Bool.and_eq_true, decide_eq_true_eq, imax_eq_max]
  refine ⟨⟨by omega, by omega⟩, ?_⟩
  cases hc : c.relaxCap with
  | none => rfl
  | some r => exact decide_eq_true (imax_eq_max r 0 ▸ hr r hc)

/-- a non-negative `relax_cap` is never exceeded; a negative one allows no relaxation at all. -/
theorem C12_relax_cap (c : Cfg α) (g : Graph α) (text : List Nat) (r : Int)
    (hr : c.relaxCap = some r) :
    (0 ≤ r → ((finalSt c g text).props : Int) ≤ r) ∧ (r ≤ 0 → (finalSt c g text).props = 0) := by
  have := imax_eq_max r 0 ▸ CapOK_final c g text r hr
  exact ⟨fun h => by omega, fun h => by omega⟩

/-- **Node budget.** `abs(acc[u]) >= node_budget` is false at every expansion and
`abs(acc[v]) < node_budget` is true at every push, `acc` being the accumulator value of that moment (as
determined by the log before the event). -/
theorem C12_node_budget (c : Cfg α) (g : Graph α) (text : List Nat) :
    (∀ u a, Ev.expand u a ∈ (finalSt c g text).evs →
      le c.nodeBudget (abs a) = false ∧
      ∃ pre rest, (finalSt c g text).evs = pre ++ Ev.expand u a :: rest ∧ a = accOf rest u) ∧
    (∀ v x a, Ev.push v x a ∈ (finalSt c g text).evs →
      lt (abs a) c.nodeBudget = true ∧
      ∃ pre rest, (finalSt c g text).evs = pre ++ Ev.push v x a :: rest ∧ a = accOf rest v) := by
  refine ⟨?_, ?_⟩
  · intro u a h
    obtain ⟨pre, rest, heq, hok⟩ := EvsOK_mem (Hist_final c g text).evs h
    exact ⟨hok.2, pre, rest, heq, hok.1⟩
  · intro v x a h
    obtain ⟨pre, rest, heq, hok⟩ := EvsOK_mem (Hist_final c g text).evs h
    exact ⟨hok.2.1, pre, rest, heq, hok.1⟩

example : budgetOk exCfg (oneGraph exCfg exGraph exText).pops (oneGraph exCfg exGraph exText).iters
    (oneGraph exCfg exGraph exText).props = true := C12_budgets _ _ _

/-- **Perf frontier cap**: when `perf.enabled` and `perf.t1.caps.frontier > 0`, the queue never holds more
than `max(0, min(frontier, effective queue budget))` items after a push. -/
theorem C12_frontier_cap (c : Cfg α) (g : Graph α) (text : List Nat) (cap : Int)
    (h : effFrontier c = some cap) : ((finalSt c g text).pq.length : Int) ≤ imax cap 0 :=
  FrontOK_final c g text cap h

example : effFrontier exCfg = some 3 := by decide

/-! ## output -/

/-- **Output** (the monitor `outputOk`): the deltas of one graph are strictly ascending ids and are
exactly the touched nodes whose accumulator has `|acc| ≥ EPS` — one delta per such node. -/
theorem C12_output (c : Cfg α) (g : Graph α) (text : List Nat) (hs : seedsOf g text ≠ []) :
    outputOk c (finalSt c g text).acc (oneGraph c g text).deltas = true ∧
    (oneGraph c g text).deltas.Pairwise (· < ·) ∧
    (∀ id, id ∈ (oneGraph c g text).deltas ↔
      ∃ x, (id, x) ∈ (finalSt c g text).acc ∧ lt (abs x) c.eps = false) := by
  have hnd := (ReachInv_final c g text).nodup
  have hd : (oneGraph c g text).deltas = deltasOf c (finalSt c g text).acc := by
    unfold oneGraph
    dsimp only
    split
    · rename_i he
      have : seedsOf g text = [] := by simpa using he
      exact absurd this hs
    · rfl
  rw [hd]
  exact ⟨outputOk_deltasOf c _ hnd, deltasOf_pairwise c _ hnd, mem_deltasOf c _⟩

/-- without seeds nothing is reported -/
theorem C12_output_no_seeds (c : Cfg α) (g : Graph α) (text : List Nat) (hs : seedsOf g text = []) :
    (oneGraph c g text).deltas = [] ∧ (oneGraph c g text).pops = 0 ∧ (oneGraph c g text).props = 0 := by
  unfold oneGraph
  simp [hs]

/-! ## counters -/

/-- **Counters = event counts.** -/
theorem C12_counters (c : Cfg α) (g : Graph α) (text : List Nat) :
    (finalSt c g text).pops = (finalSt c g text).evs.countP Ev.isPop ∧
    (finalSt c g text).props = (finalSt c g text).evs.countP Ev.isRelax ∧
    (finalSt c g text).radiusHits = (finalSt c g text).evs.countP Ev.isRadius ∧
    (finalSt c g text).layerHits = (finalSt c g text).evs.countP Ev.isLayer ∧
    (finalSt c g text).nodeHits = (finalSt c g text).evs.countP Ev.isNodeHit :=
  let h := Counts_final c g text
  ⟨h.pops, h.props, h.radius, h.layer, h.node⟩

/-- **The perf dedupe ring and visited set are inert as the code is written**: `if ring …` /
`if visited_lru …` test `__len__` of containers that start empty, so nothing is ever added, no push is
deduplicated, no pop is skipped as visited, and both counters stay 0 — for every configuration. -/
theorem C12_perf_ring_visited_inert (c : Cfg α) (g : Graph α) (text : List Nat) :
    (finalSt c g text).dedupHits = 0 ∧ (finalSt c g text).visitedEv = 0 ∧
    (finalSt c g text).evs.countP Ev.isDedup = 0 ∧
    (finalSt c g text).evs.countP Ev.isVisitedSkip = 0 :=
  let h := Inert_final c g text
  ⟨h.dedup, h.visEv, h.noDedupEv, h.noVisitedEv⟩

/-! ## several graphs -/

/-- **Several active graphs**: with the result cache off and no error, the result is the concatenation of
the per-graph deltas in `active_graphs` order and the counters are per-graph sums — every budget above is
per graph (with slice budgets each graph runs under what the earlier ones left, `leftCfg`; see the
example below). -/
theorem C12_multi_concat (c : Cfg α) (text : List Nat) (hc : c.cacheOn = false)
    (hp : c.slicePops = none) (hi : c.sliceIters = none) :
    ∀ (gs : List (Graph α)) (t : Tot α), t.err = false →
      (∀ g ∈ gs, (oneGraph c g text).err = false) →
      (gs.foldl (addGraph c text) t).deltas =
          t.deltas ++ gs.flatMap (fun g => (oneGraph c g text).deltas.map (fun n => (g.gid, n))) ∧
      (gs.foldl (addGraph c text) t).pops = t.pops + (gs.map (fun g => (oneGraph c g text).pops)).sum ∧
      (gs.foldl (addGraph c text) t).props = t.props + (gs.map (fun g => (oneGraph c g text).props)).sum ∧
      (gs.foldl (addGraph c text) t).err = false := by
  intro gs
  induction gs with
  | nil => intro t ht _; simp [ht]
  | cons g gs ih =>
    intro t ht hg
    have hl : leftCfg c t = c := leftCfg_no_slice c t hp hi
    obtain ⟨h1, h2, h3, h4⟩ := addGraph_nocache c text t g hc ht
    rw [hl] at h1 h2 h3 h4
    have he : (addGraph c text t g).err = false := by rw [h4]; exact hg g List.mem_cons_self
    obtain ⟨i1, i2, i3, i4⟩ := ih (addGraph c text t g) he (fun g' hg' => hg g' (List.mem_cons_of_mem _ hg'))
    simp only [List.foldl_cons, List.flatMap_cons, List.map_cons, List.sum_cons]
    refine ⟨?_, ?_, ?_, i4⟩
    · rw [i1, h1, List.append_assoc]
    · rw [i2, h2]; omega
    · rw [i3, h3]; omega

/-! ## non-vacuity: a concrete run (kernel-evaluated at the `Int` carrier) -/

example : (oneGraph exCfg exGraph exText).deltas = [0, 1, 2] := by decide +kernel
example : (oneGraph exCfg exGraph exText).props = 2 ∧ (oneGraph exCfg exGraph exText).pops = 3 := by decide +kernel
/-- the log of that run contains the relaxation `1 → 2` with `contrib = 2·3·1·1 = 6` (hypothesis of `C12_rule`) -/
example : (finalSt exCfg exGraph exText).evs.any (fun e => match e with
    | .relax l => l.src == 1 && l.dst == 2 && l.w == 2 && l.weight == 3 && l.contrib == 6 && l.d == 2
    | _ => false) = true := by decide +kernel

/-- the slice budget is shared by the graphs: with slice cap `t1_pops = 1` and two active graphs the call
pops once in total. -/
example : (t1 { exCfg with slicePops := some 1 } [exGraph, { exGraph with gid := 1 }] exText).pops = 1 := by
  decide +kernel

/-- relaxation cap at 0 (with the pre-check): one pop, no relaxation. -/
example : (oneGraph { exCfg with relaxCap := some 0 } exGraph exText).props = 0 ∧
    (oneGraph { exCfg with relaxCap := some 0 } exGraph exText).pops = 1 := by decide +kernel

end Clem.T1
