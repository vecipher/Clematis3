/-
C17 — Scheduling is deterministic, starvation-free and budgets bind.

All statements are about the definitions in `Clem.Model.Sched` that the driver executes
(`nextTurn`, `onYield`, `initState`, `stepT`, `simulate`, `shouldYield`, `deriveBudgets`,
and the monitors `pickB`, `isLeastB`, `gapsOkB`, `consecOkB`, `yieldSpecB`).
-/
import Clem.Proofs.Sched
import Clem.Proofs.SchedT1

namespace Clem.Props.C17

open Clem.Sched Clem.Sched.Abs

/-! ## 1. Selection is a function of (state, clock, policy) and refines the specification -/

/-- Determinism: `nextTurn` is a total function of `(policy, aging, allowance, clock, state)`;
under round-robin it does not even read the clock, `aging_ms` or `last_ran_ms`. -/
theorem C17_Next_deterministic_rr (aging aging' m now now' : Int) (s : State) (lr : Dict) :
    nextTurn false aging m now s = nextTurn false aging' m now' { s with lastRan := lr } := by
  unfold nextTurn eligible eligB
  cases s.queue <;> rfl

/-- What `Pick` (the monitor `pickB`) says, in words: if some queued agent has allowance left, the
chosen one is queued, has allowance left and the reason is not RESET; otherwise the chosen one is
`min(queue)` and the reason is RESET. -/
theorem C17_Pick_meaning (s : State) (m : Int) (a : Agent) (r : Reason) :
    pickB s m a r = true ↔
      ((∃ b ∈ s.queue, dGetD s.consec b 0 < m) → a ∈ s.queue ∧ dGetD s.consec a 0 < m ∧ r ≠ .resetConsec) ∧
      ((∀ b ∈ s.queue, ¬ dGetD s.consec b 0 < m) → a = pyMin s.queue ∧ r = .resetConsec) := by
  unfold pickB
  by_cases h : anyElig s m = true
  · have h' := h
    simp only [anyElig, List.any_eq_true, eligB, decide_eq_true_eq] at h'
    rw [if_pos h]
    simp only [Bool.and_eq_true, List.contains_iff_mem, eligB, decide_eq_true_eq, Bool.not_eq_true',
      beq_eq_false_iff_ne, ne_eq]
    constructor
    · intro hh
      refine ⟨fun _ => ⟨hh.1.1, hh.1.2, hh.2⟩, fun hall => ?_⟩
      obtain ⟨b, hb, hlt⟩ := h'
      exact absurd hlt (hall b hb)
    · intro hh
      obtain ⟨h1, h2, h3⟩ := hh.1 h'
      exact ⟨⟨h1, h2⟩, h3⟩
  · have h0 : anyElig s m = false := by simpa using h
    have h' := h0
    simp only [anyElig, List.any_eq_false, eligB, decide_eq_true_eq] at h'
    rw [h0]
    simp only [Bool.false_eq_true, if_false, Bool.and_eq_true, beq_iff_eq]
    constructor
    · intro hh
      refine ⟨fun hex => ?_, fun _ => hh⟩
      obtain ⟨b, hb, hlt⟩ := hex
      exact absurd hlt (h' b hb)
    · intro hh
      exact hh.2 h'

/-- **Next_refines_Pick**: the exact `next_turn` satisfies the specification relation, for both
policies, every clock value, every `aging_ms` (≤ 0 included), every allowance (≤ 0 included),
every queue order and every content of the two dicts (missing keys included). -/
theorem C17_Next_refines_Pick (fq : Bool) (aging m now : Int) (s : State) (hq : s.queue ≠ []) :
    pickB s m (nextTurn fq aging m now s).1 (nextTurn fq aging m now s).2 = true :=
  nextTurn_pick fq aging m now s hq

example : pickB (initState [[98], [97]] 0) 1 (nextTurn true 10 1 5 (initState [[98], [97]] 0)).1
    (nextTurn true 10 1 5 (initState [[98], [97]] 0)).2 = true := by decide +kernel

/-- The agent chosen on RESET is a member of the queue and no queued agent is lexicographically
smaller (Python `str` order = `ltA`). -/
theorem C17_Reset_picks_lex_first (q : List Agent) (hq : q ≠ []) : isLeastB q (pyMin q) = true :=
  isLeastB_pyMin hq

/-- `ltA` is Python's `str` `<`: the lexicographic order on code-point lists. -/
theorem C17_ltA_is_lex (a b : Agent) : ltA a b = true ↔ a < b := ltA_iff a b

/-- With an empty queue `next_turn` returns the empty id and never RESET. -/
theorem C17_Next_empty_queue (fq : Bool) (aging m now : Int) (s : State) (hq : s.queue = []) :
    (nextTurn fq aging m now s).1 = [] ∧ (nextTurn fq aging m now s).2 ≠ .resetConsec := by
  unfold nextTurn; rw [hq]; cases fq <;> simp

/-! ## 2. Counters stay within the allowance -/

/-- **Consec_bounded**: in every state reachable from `init_scheduler_state` by specification steps
(any admissible pick, the real bookkeeping with any clock, any queue permutation), every counter is in
`[0, m]` and every queued agent has one. -/
theorem C17_Consec_bounded (ids : List Agent) (now0 : Int) (mn : Nat) (tr : List Agent) (s' : State)
    (hr : PRun (mn : Int) (initState ids now0) tr s') : consecOkB s' (mn : Int) = true := by
  have hI := (prun_abs (init_inv ids now0 (mn : Int) (by omega)) hr).2
  simp only [consecOkB, Bool.and_eq_true, List.all_eq_true, decide_eq_true_eq]
  exact ⟨hI.keys, fun p hp => ⟨hI.lo p hp, hI.hi p hp⟩⟩

/-- the same for the executed model (both policies, any clocks, any aging, rotation on/off per step) -/
theorem C17_Consec_bounded_exact (ids : List Agent) (now0 : Int) (mn : Nat) (ts : List Tick)
    (hne : ids ≠ []) : consecOkB (simulate (mn : Int) (initState ids now0) ts).2 (mn : Int) = true := by
  have hq : (initState ids now0).queue ≠ [] := by
    intro h
    have := (init_queue_perm ids now0).length_eq
    rw [h] at this
    exact hne (List.eq_nil_of_length_eq_zero this.symm)
  exact C17_Consec_bounded ids now0 mn _ _ (simulate_prun _ _ ts hq)

example : consecOkB (simulate 1 (initState [[97], [98]] 0) [⟨0, 0, false, 0, true⟩, ⟨1, 1, true, 5, false⟩]).2 1 = true := by
  decide +kernel

/-- "all allowances reset": the bookkeeping of a RESET turn leaves every counter at zero -/
theorem C17_Reset_zeroes_all (s : State) (a : Agent) (now : Int) :
    ∀ p ∈ (onYield s a now true).consec, p.2 = 0 := by
  intro p hp
  simp only [onYield, if_true, List.mem_map] at hp
  obtain ⟨_, _, rfl⟩ := hp
  rfl

/-! ## 3. Starvation bound -/

/-- **Starvation_bound** (relation level, unbounded): take any state satisfying the invariant of
reachable states for an agent set `q` without duplicates and an allowance `m ≥ 1`; take **any**
history of specification steps from it (any admissible choice at every step — hence any tie-breaking,
any policy, any clock —, real bookkeeping after every selection, any permutation of the queue after
every step).  Then in every contiguous window of the history in which agent `x ∈ q` is not selected
there are at most `2·(n−1)·m + 1` selections. -/
theorem C17_Starvation_bound (q : List Agent) (mn : Nat) (s s' : State) (tr : List Agent) (x : Agent)
    (hq : q.Nodup) (hm : 1 ≤ mn) (hI : Inv q (mn : Int) s) (hr : PRun (mn : Int) s tr s') (hx : x ∈ q)
    (pre w post : List Agent) (hsplit : tr = pre ++ w ++ post) (hfree : x ∉ w) :
    w.length ≤ bound q.length mn := by
  have hA := (prun_abs hI hr).1
  rw [hsplit, List.append_assoc] at hA
  obtain ⟨c1, _, h2⟩ := ARun.split pre (w ++ post) hA
  obtain ⟨c2, h3, _⟩ := ARun.split w post h2
  exact starvation_bound hq hx hm h3 hfree

/-- the same from `init_scheduler_state(ids)` for distinct ids, `n = len(ids)` -/
theorem C17_Starvation_bound_init (ids : List Agent) (now0 : Int) (mn : Nat) (s' : State) (tr : List Agent)
    (x : Agent) (hq : ids.Nodup) (hm : 1 ≤ mn) (hr : PRun (mn : Int) (initState ids now0) tr s')
    (hx : x ∈ ids) (pre w post : List Agent) (hsplit : tr = pre ++ w ++ post) (hfree : x ∉ w) :
    w.length ≤ bound ids.length mn := by
  have hp := init_queue_perm ids now0
  have := C17_Starvation_bound (initState ids now0).queue mn _ s' tr x (hp.nodup_iff.2 hq) hm
    (init_inv ids now0 (mn : Int) (by omega)) hr (hp.mem_iff.2 hx) pre w post hsplit hfree
  rwa [hp.length_eq] at this

/-- every agent is selected among the first `(n−1)·m + 1` selections after initialisation -/
theorem C17_First_selection_bound (ids : List Agent) (now0 : Int) (mn : Nat) (s' : State) (w post : List Agent)
    (x : Agent) (hq : ids.Nodup) (hm : 1 ≤ mn) (hr : PRun (mn : Int) (initState ids now0) (w ++ post) s')
    (hx : x ∈ ids) (hfree : x ∉ w) : w.length ≤ (ids.length - 1) * mn := by
  have hp := init_queue_perm ids now0
  have hI := init_inv ids now0 (mn : Int) (by omega)
  have hA := (prun_abs hI hr).1
  obtain ⟨c2, h3, _⟩ := ARun.split w post hA
  have hx' : x ∈ (initState ids now0).queue := hp.mem_iff.2 hx
  have h0 : cOf (initState ids now0) x < mn := by
    have hmem := dGetD_mem _ x (hI.keys x hx')
    have hv := dictOfKeys_val 0 _ _ hmem
    simp only at hv
    simp only [cOf]
    rw [hv]; simp only [Int.toNat_zero]; omega
  have := first_selection_bound (hp.nodup_iff.2 hq) hx' hm h0 h3 hfree
  rwa [hp.length_eq] at this

/-- **Starvation bound for the executed code model**: for every history of ticks (per tick: either
policy, any `aging_ms`, any pick clock and yield clock — also backwards —, rotation or not), started
from `init_scheduler_state` of distinct ids with allowance `m ≥ 1`, the monitor `gapsOkB` (longest
wait of every agent ≤ `2·(n−1)·m + 1`) holds on the trace. -/
theorem C17_Starvation_bound_exact (ids : List Agent) (now0 : Int) (mn : Nat) (ts : List Tick)
    (hq : ids.Nodup) (hne : ids ≠ []) (hm : 1 ≤ mn) :
    gapsOkB (initState ids now0).queue mn (simulate (mn : Int) (initState ids now0) ts).1 = true := by
  have hp := init_queue_perm ids now0
  have hqne : (initState ids now0).queue ≠ [] := by
    intro h
    have := hp.length_eq
    rw [h] at this
    exact hne (List.eq_nil_of_length_eq_zero this.symm)
  have hr := simulate_prun (mn : Int) _ ts hqne
  simp only [gapsOkB, List.all_eq_true, decide_eq_true_eq]
  intro x hx
  apply maxGap_le
  intro pre w post hs hfree
  have := C17_Starvation_bound_init ids now0 mn _ _ x hq hm hr (hp.mem_iff.1 hx) pre w post hs hfree
  rwa [hp.length_eq]

/-- Non-vacuity and **tightness** (`n = 3`, `m = 2`, bound 9) on the exact model, from
`init_scheduler_state(["a","b","c"])`: round-robin, constant clock, the demo's rotation applied after
ticks 1, 3 and 8.  Trace: `a a b b c c | a | c c a a b b | a | a a b b c` — agent `c` waits exactly
9 selections between its 4th and 5th turn. -/
def tightTicks : List Tick :=
  (List.range 19).map (fun i => ⟨0, 0, false, 0, i == 1 || i == 3 || i == 8⟩)

theorem C17_Starvation_bound_tight :
    maxGap [99] (simulate 2 (initState [[97], [98], [99]] 0) tightTicks).1 = bound 3 2 := by decide +kernel

example : gapsOkB (initState [[97], [98], [99]] 0).queue 2
    (simulate 2 (initState [[97], [98], [99]] 0) tightTicks).1 = true :=
  C17_Starvation_bound_exact _ 0 2 tightTicks (by decide) (by decide) (by decide)

/-- The allowance must be at least 1 (the validator enforces `max_consecutive_turns ≥ 1`):
with allowance 0 every pick is a RESET of the lexicographically first agent and `b` never runs. -/
theorem C17_Starvation_needs_positive_allowance :
    (simulate 0 (initState [[97], [98]] 0) (List.replicate 8 ⟨0, 0, false, 0, false⟩)).1
      = List.replicate 8 [97] := by decide +kernel

/-- **Starvation_needs_bookkeeping**: without `on_yield` the state does not change, so round-robin
selects the same agent at every clock — the bound is conditional on the bookkeeping. -/
theorem C17_Starvation_needs_bookkeeping (aging m : Int) (s : State) (clocks : List Int) :
    ∀ now ∈ clocks, nextTurn false aging m now s = nextTurn false aging m 0 s :=
  fun now _ => C17_Next_deterministic_rr aging aging m now 0 s s.lastRan

/-! ## 4. Yield decision -/

/-- **Yield_precedence**: `_should_yield` returns exactly the reason prescribed by the table
"wall-clock, then stage budgets in the order T1 iters / T1 pops / T2 k / T3 ops, then quantum, else
no yield" — `yieldSpecB` is that table, written without reference to `shouldYield`. -/
theorem C17_Yield_precedence (b : Budgets) (c : Consumed) : yieldSpecB b c (shouldYield b c) = true := by
  unfold shouldYield yieldSpecB quantumHit
  -- down the `if` chain: at the first test that fires, the row of that reason is the tests seen so far
  cases wallHit b c with
  | true => rfl
  | false =>
  cases hitEq b.t1Iters c.t1Iters with
  | true => rfl
  | false =>
  cases hitEq b.t1Pops c.t1Pops with
  | true => rfl
  | false =>
  cases hitEq b.t2K c.t2K with
  | true => rfl
  | false =>
  cases hitEq b.t3Ops c.t3Ops with
  | true => rfl
  | false => cases decide (elapsed c ≥ b.quantum.getD 20) <;> rfl

/-- the table determines the answer: it is the only reason satisfying it -/
theorem C17_Yield_precedence_unique (b : Budgets) (c : Consumed) (r : Option YReason)
    (h : yieldSpecB b c r = true) : r = shouldYield b c := by
  unfold shouldYield
  -- the row of `r` fixes the outcome of every test up to the one that returns `r`
  rcases r with _ | (_|_|_|_|_|_) <;>
    simp only [yieldSpecB, quantumHit, Bool.and_eq_true, Bool.not_eq_true'] at h <;>
    simp [h]

/-- wall-clock wins over everything -/
theorem C17_Yield_wall_first (b : Budgets) (c : Consumed) (w : Int) (hw : b.wall = some w)
    (h : elapsed c ≥ w) : shouldYield b c = some .wall := by
  unfold shouldYield wallHit; rw [hw]; simp [h]

/-- a stage budget wins over the quantum -/
theorem C17_Yield_budget_over_quantum (b : Budgets) (c : Consumed) (h : shouldYield b c = some .quantum) :
    hitEq b.t1Iters c.t1Iters = false ∧ hitEq b.t1Pops c.t1Pops = false ∧ hitEq b.t2K c.t2K = false ∧
    hitEq b.t3Ops c.t3Ops = false ∧ wallHit b c = false := by
  have := C17_Yield_precedence b c
  rw [h] at this
  simp only [yieldSpecB, Bool.and_eq_true, Bool.not_eq_true'] at this
  obtain ⟨⟨⟨⟨⟨h0, h1⟩, h2⟩, h3⟩, h4⟩, _⟩ := this
  exact ⟨h1, h2, h3, h4, h0⟩

example : shouldYield ⟨some 5, some 2, none, none, none, some 3⟩ ⟨some 5, some 2, none, none, none⟩ = some .wall := by
  decide
example : shouldYield ⟨some 6, some 2, none, none, none, some 3⟩ ⟨some 5, some 2, none, none, none⟩ = some .t1Iters := by
  decide

/-- the stage budgets fire only on *equality* with the consumed count, and a missing count never fires -/
theorem C17_Yield_budget_is_equality (bv : Option Int) (cv : Option Int) :
    hitEq bv cv = true ↔ ∃ v, bv = some v ∧ cv = some v := by
  cases bv <;> cases cv <;> simp [hitEq, eq_comm]

/-- `_derive_budgets` keeps exactly the configured budget keys and always sets `quantum_ms` (default 20) -/
theorem C17_Derive_budgets_ok (a b c d e : Option Int) (q : Option Int) :
    let f : Option Int → CfgVal := fun o => match o with | none => .absent | some i => .int i
    deriveBudgets (f a) (f b) (f c) (f d) (f e) (f q) =
      .ok { wall := e, t1Iters := b, t1Pops := a, t2K := c, t3Ops := d, quantum := some (q.getD 20) } := by
  intro f
  have hk : ∀ o, budgetKey (f o) = .ok o := fun o => by cases o <;> rfl
  have hq : cfgInt (f q) 20 = .ok (q.getD 20) := by cases q <;> rfl
  unfold deriveBudgets
  rw [hk, hk, hk, hk, hk, hq]
  rfl

/-- DESIGN §5 row 14: with the scheduler on, the decision depends on the measured elapsed time
(`time.perf_counter`), so wall-clock speed changes yields: same budgets and stage counters, two
elapsed values, two different answers. -/
theorem C17_Yield_depends_on_elapsed :
    ∃ (b : Budgets) (c1 c2 : Consumed), c1.t1Iters = c2.t1Iters ∧ c1.t1Pops = c2.t1Pops ∧ c1.t2K = c2.t2K ∧
      c1.t3Ops = c2.t3Ops ∧ shouldYield b c1 ≠ shouldYield b c2 :=
  ⟨⟨some 200, none, none, none, none, some 20⟩, ⟨some 19, none, none, none, none⟩,
    ⟨some 20, none, none, none, none⟩, rfl, rfl, rfl, rfl, by decide⟩

/-! ## 4b. A turn yields only at a stage boundary, at the first boundary whose decision fires -/

/-- **Turn_yield_first_boundary** (the skeleton of `Turn_yield_only_at_boundary`): if the turn yields with `(stage, reason)` then `stage`
is one of the consulted boundaries, `reason` is `_should_yield`'s answer on that boundary's counters
(hence obeys the precedence table), and at every earlier boundary the answer was `None`. -/
theorem C17_Turn_yield_first_boundary (b : Budgets) (l : List (Stage × Consumed)) (st : Stage) (r : YReason)
    (h : firstYield b l = some (st, r)) :
    ∃ pre c post, l = pre ++ (st, c) :: post ∧ shouldYield b c = some r ∧
      yieldSpecB b c (some r) = true ∧ ∀ p ∈ pre, shouldYield b p.2 = none := by
  rw [firstYield_eq_findSome, List.findSome?_eq_some_iff] at h
  obtain ⟨pre, ⟨_, c⟩, post, rfl, hc, hpre⟩ := h
  obtain ⟨_, hr, e⟩ := Option.map_eq_some_iff.1 hc
  cases e
  exact ⟨pre, c, post, rfl, hr, hr ▸ C17_Yield_precedence b c,
    fun p hp => Option.map_eq_none_iff.1 (hpre p hp)⟩

/-- the turn runs to completion exactly when no boundary's decision fires -/
theorem C17_Turn_no_yield_iff (b : Budgets) (l : List (Stage × Consumed)) :
    firstYield b l = none ↔ ∀ p ∈ l, shouldYield b p.2 = none := by
  simp only [firstYield_eq_findSome, List.findSome?_eq_none_iff, Option.map_eq_none_iff]

example : firstYield ⟨some 50, none, none, none, some 1, some 20⟩
    [(.T1, ⟨some 0, some 0, some 0, none, none⟩), (.T2, ⟨some 5, none, none, some 0, none⟩),
     (.T3, ⟨some 60, none, none, none, some 1⟩)] = some (.T3, .wall) := by decide +kernel

/-! ## 5. Slice budgets bind the stage's reported work (totals over all active graphs) -/

/-- the stage-side clamp `min(base, int(slice))`: the effective cap never exceeds the slice budget
nor the configured cap -/
theorem C17_Clamp_le (base v : Int) : clampCap base (some v) ≤ v ∧ clampCap base (some v) ≤ base := by
  simp only [clampCap]; split <;> omega

theorem C17_Clamp_absent (base : Int) : clampCap base none = base := rfl

/-- per graph the clamp binds -/
theorem C17_Budgets_bind_per_graph (qb budget : Int) (ps : List Int)
    (h : ∀ p ∈ ps, p ≤ clampCap qb (some budget)) : ∀ p ∈ ps, p ≤ budget :=
  fun p hp => Int.le_trans (h p hp) (C17_Clamp_le qb budget).1

/-- why the clamp alone is not enough (the defect repaired by
`fix: T1 slice budgets t1_pops/t1_iters bind the stage totals`): clamping every graph by the whole
budget lets the reported total exceed it, and the equality test of `_should_yield` then never fires. -/
theorem C17_Per_graph_clamp_alone_insufficient :
    ∃ (qb budget : Int) (ps : List Int), (∀ p ∈ ps, p ≤ clampCap qb (some budget)) ∧ ¬ ps.sum ≤ budget ∧
      shouldYield ⟨none, none, some budget, none, none, some 1000⟩ ⟨some 0, some 0, some ps.sum, none, none⟩ = none :=
  ⟨10000, 1, [1, 1], by decide, by decide, by decide⟩

section T1
open Clem.T1
variable {α : Type} [Clem.T1.Num α]

/-- **Budgets_bind (T1 pops, full strength)**: on the exact model of `t1_propagate`
(`Clem.T1.t1`: any configuration, any number of active graphs incl. repeated ids, result cache on or
off, any text) the total `pops` the stage reports — the quantity `_should_yield` compares with the
budget — never exceeds a non-negative slice budget `t1_pops`: every graph runs under what the earlier
graphs left (`leftCfg`). -/
theorem C17_Budgets_bind_t1_pops (c : Clem.T1.Cfg α) (gs : List (Clem.T1.Graph α)) (text : List Nat) (s : Int)
    (hs : c.slicePops = some s) (h0 : 0 ≤ s) : ((Clem.T1.t1 c gs text).pops : Int) ≤ s :=
  (t1_inv c gs text).pops s hs h0

/-- **Budgets_bind (T1 layers, full strength)**: the same for the total `iters` and `t1_iters`. -/
theorem C17_Budgets_bind_t1_iters (c : Clem.T1.Cfg α) (gs : List (Clem.T1.Graph α)) (text : List Nat) (s : Int)
    (hs : c.sliceIters = some s) (h0 : 0 ≤ s) : (Clem.T1.t1 c gs text).iters ≤ s :=
  (t1_inv c gs text).iters s hs h0

omit [Clem.T1.Num α] in
/-- without a slice budget nothing changes: every graph runs under the configured caps -/
theorem C17_No_slice_budget_unchanged (c : Clem.T1.Cfg α) (t : Clem.T1.Tot α)
    (hp : c.slicePops = none) (hi : c.sliceIters = none) : leftCfg c t = c :=
  leftCfg_no_slice c t hp hi

/-- each graph's own clamp: what a graph adds is within the caps left for it -/
theorem C17_Budgets_bind_t1_graph (c : Clem.T1.Cfg α) (g : Clem.T1.Graph α) (text : List Nat) :
    ((oneGraph c g text).pops : Int) ≤ imax (effQueue c) 0 ∧ (oneGraph c g text).iters ≤ imax (effLayers c) 0 := by
  have h := oneGraph_EOK c g text
  have hc := oneGraph_caps c g text
  unfold EOK at h
  rw [hc.1, hc.2] at h
  exact h

end T1

/-- a configuration with both slice budgets set, at which the example below instantiates the theorem —
with no graph, so it only shows that the hypotheses can be met; the run that exercises the bound (two
graphs, `t1_pops = 1`, one pop in total) is the kernel-evaluated `example` next to `C12_multi_concat`. -/
def exT1Cfg : Clem.T1.Cfg Int where
  queueBudget := 10
  nodeBudget := 5
  radiusCap := 4
  iterCap := 50
  iterCapLayers := 50
  relaxCap := none
  sliceIters := some 1
  slicePops := some 1
  perfEnabled := false
  metricsEnabled := false
  frontierCap := 0
  visitedCap := 0
  dedupeWindow := 0
  decay := none
  edgeMult := []
  eps := 0
  cacheOn := true

example : ((Clem.T1.t1 exT1Cfg [] []).pops : Int) ≤ 1 :=
  C17_Budgets_bind_t1_pops exT1Cfg [] [] 1 rfl (by decide)

/-- once the total reaches the budget the boundary decision fires (no wall hit, no layer hit before it) -/
theorem C17_Budget_total_reached_yields (b : Budgets) (c : Consumed) (v : Int)
    (hb : b.t1Pops = some v) (hc : c.t1Pops = some v) (hw : wallHit b c = false)
    (hi : hitEq b.t1Iters c.t1Iters = false) : shouldYield b c = some .t1Pops := by
  have hp : hitEq b.t1Pops c.t1Pops = true := by simp [hb, hc, hitEq]
  unfold shouldYield
  simp [hw, hi, hp]

end Clem.Props.C17
