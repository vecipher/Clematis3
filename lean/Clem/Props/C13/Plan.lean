/-
C13 (planner part): `deliberate` and the intent rule `intentOf`.
All statements are about the definitions of `Clem/Model/T3.lean` that the driver executes, over an arbitrary
carrier `α` of scores with Python's comparison operators (`PyOrd`); where Python float laws are needed they are
the hypothesis `LawfulPyOrd α` (NaN compares false, `<` = `¬ >=` off NaN, `>=` transitive).
-/
import Clem.Proofs.T3

namespace Clem.Props.C13
open Clem.T3

section anyCarrier
variable {α : Type} [PyOrd α]

/-- **Op cap** (`Delib_cap`): for *every* integer value of the two caps (0 and negative included),
`deliberate` emits at most `max 0 (min perTurn perSlice)` operations. -/
theorem C13_delib_cap (b : Bundle α) :
    ((deliberate b).length : Int) ≤ max 0 (capsOps b) := by
  rcases Int.lt_or_le 0 (capsOps b) with h | h
  · exact capOps_length _ _ (Or.inl (Int.le_of_lt h))
  · rw [deliberate_nonpos b h]; exact Int.le_max_left 0 _

/-- **Speak first** (`Delib_head`): a non-empty plan starts with the Speak op carrying the sorted, de-duplicated
topic labels (≤ 5), the configured token budget, and the intent dictated by the thresholds. -/
theorem C13_delib_head (b : Bundle α) :
    deliberate b = [] ∨ ∃ rest, deliberate b = speakOf b b.sMax :: rest := by
  rcases deliberate_cases b with ⟨-, h⟩ | ⟨-, E, R, h, -⟩
  · exact Or.inl h
  · exact Or.inr ⟨_, h⟩

/-- the plan is empty only when the cap is ≤ 0 -/
theorem C13_delib_nonempty (b : Bundle α) (h : 1 ≤ capsOps b) : deliberate b ≠ [] := by
  rcases deliberate_cases b with ⟨hc, -⟩ | ⟨-, E, R, he, -⟩
  · exact absurd h (Int.not_le.2 (Int.lt_of_le_of_lt hc (by decide)))
  · rw [he]; exact List.cons_ne_nil _ _

omit [PyOrd α] in
/-- the Speak op carries at most 5 topic labels -/
theorem C13_delib_labels_cap (b : Bundle α) : (topicLabels b).length ≤ 5 :=
  List.length_take_le 5 _

/-- the intent written into the Speak op, clause by clause -/
theorem C13_intent_summary (τh τl s : α) (l : Bool) (h : PyOrd.ge s τh = true) :
    intentOf τh τl s l = .summary :=
  if_pos h

theorem C13_intent_mid (τh τl s : α) (l : Bool) (h1 : PyOrd.ge s τh = false) (h2 : PyOrd.ge s τl = true) :
    intentOf τh τl s l = if l then .assertion else .ack :=
  (if_neg (Bool.eq_false_iff.1 h1)).trans (if_pos h2)

theorem C13_intent_question (τh τl s : α) (l : Bool) (h1 : PyOrd.ge s τh = false) (h2 : PyOrd.ge s τl = false) :
    intentOf τh τl s l = .question :=
  (if_neg (Bool.eq_false_iff.1 h1)).trans (if_neg (Bool.eq_false_iff.1 h2))

/-- **Retrieve only below the low threshold** (`Delib_retrieve_iff`, "only if" direction, no float laws needed) -/
theorem C13_delib_retrieve_only_if (b : Bundle α) (h : (deliberate b).any Op.isRetrieve = true) :
    PyOrd.lt b.sMax b.tauLow = true := by
  rcases deliberate_cases b with ⟨-, h0⟩ | ⟨-, E, R, he, hE, hR⟩
  · rw [h0] at h; cases h
  · by_cases hr : PyOrd.lt b.sMax b.tauLow = true ∧ ((speakOf b b.sMax :: E).length : Int) < capsOps b
    · exact hr.1
    · -- no retrieval request was appended: neither the Speak op nor an edit is one
      rw [he, hR, if_neg hr] at h
      rcases hE with rfl | ⟨-, -, _, _, rfl⟩ <;> cases h

/-- **Edits only at or above the low threshold** (`Delib_edit_only_if`) -/
theorem C13_delib_edit_only_if (b : Bundle α) (h : (deliberate b).any Op.isEdit = true) :
    PyOrd.ge b.sMax b.tauLow = true := by
  rcases deliberate_cases b with ⟨-, h0⟩ | ⟨-, E, R, he, hE, hR⟩
  · rw [h0] at h; cases h
  · rcases hE with rfl | ⟨hge, -⟩
    · -- no edit was appended: neither the Speak op nor a retrieval request is one
      rw [he, hR] at h
      split at h <;> cases h
    · exact hge

/-- the monitor evaluated by the harness on the implementation's ops is a theorem of the model -/
theorem C13_delib_planOk (b : Bundle α) : planOk b (deliberate b) = true := by
  have gate {x y : Bool} (h : x = true → y = true) : (!x || y) = true := by
    cases x
    · rfl
    · exact h rfl
  unfold planOk gatesOk withinCap
  rw [decide_eq_true (C13_delib_cap b), gate (C13_delib_retrieve_only_if b), gate (C13_delib_edit_only_if b)]
  rcases C13_delib_head b with h | ⟨rest, h⟩ <;> rw [h]
  · rfl
  · exact (Bool.and_true _).trans (beq_self_eq_true _)

end anyCarrier

section lawful
variable {α : Type} [PyOrd α] [LawfulPyOrd α]
open LawfulPyOrd

/-- NaN similarity ⇒ the planner asks a question (every comparison with NaN is false) -/
theorem C13_intent_nan (τh τl s : α) (l : Bool) (h : isNaN s = true) : intentOf τh τl s l = .question :=
  C13_intent_question τh τl s l (ge_nan_left s τh h) (ge_nan_left s τl h)

/-- NaN thresholds also give a question -/
theorem C13_intent_nan_thresholds (τh τl s : α) (l : Bool) (hh : isNaN τh = true) (hl : isNaN τl = true) :
    intentOf τh τl s l = .question :=
  C13_intent_question τh τl s l (ge_nan_right s τh hh) (ge_nan_right s τl hl)

/-- **Retrieve iff** (`Delib_retrieve_iff`): a RequestRetrieve is planned exactly when the score is below the low
threshold and the cap leaves room for a second op. -/
theorem C13_delib_retrieve_iff (b : Bundle α) :
    (deliberate b).any Op.isRetrieve = true ↔ (PyOrd.lt b.sMax b.tauLow = true ∧ 2 ≤ capsOps b) := by
  rcases deliberate_cases b with ⟨hc, h0⟩ | ⟨-, E, R, he, hE, hR⟩
  · rw [h0]
    exact iff_of_false Bool.false_ne_true fun h => Int.not_le.2 (Int.lt_of_le_of_lt hc (by decide)) h.2
  · by_cases hlt : PyOrd.lt b.sMax b.tauLow = true
    · -- below the threshold no edit is planned, so the request is the second op, if there is room for one
      have hE0 : E = [] := hE.resolve_right fun hE => Bool.false_ne_true ((lt_not_ge hlt).symm.trans hE.1)
      subst hE0
      rw [he, hR]
      by_cases hroom : 2 ≤ capsOps b
      · rw [if_pos ⟨hlt, hroom⟩]; exact iff_of_true rfl ⟨hlt, hroom⟩
      · rw [if_neg fun h => hroom h.2]; exact iff_of_false Bool.false_ne_true fun h => hroom h.2
    · exact iff_of_false (fun h => hlt (C13_delib_retrieve_only_if b h)) fun h => hlt h.1

/-- retrieval and graph edits are never planned together -/
theorem C13_delib_not_both (b : Bundle α) :
    ¬ ((deliberate b).any Op.isRetrieve = true ∧ (deliberate b).any Op.isEdit = true) := by
  rintro ⟨h1, h2⟩
  have := lt_not_ge (C13_delib_retrieve_only_if b h1)
  rw [C13_delib_edit_only_if b h2] at this
  cases this

/-- **Monotone in the score**: a larger similarity never lowers the evidence level of the intent
(question < ack/assertion < summary) … -/
theorem C13_intent_monotone (τh τl s s' : α) (l : Bool) (h : PyOrd.ge s' s = true) :
    (intentOf τh τl s l).rank ≤ (intentOf τh τl s' l).rank := by
  unfold intentOf
  by_cases h1 : PyOrd.ge s τh = true
  · rw [if_pos h1, if_pos (ge_trans s' s τh h h1)]; exact Nat.le_refl _
  · rw [if_neg h1]
    by_cases h2 : PyOrd.ge s τl = true
    · rw [if_pos h2]
      have h2' := ge_trans s' s τl h h2
      by_cases h3 : PyOrd.ge s' τh = true
      · rw [if_pos h3]; cases l <;> decide
      · rw [if_neg h3, if_pos h2']; exact Nat.le_refl _
    · rw [if_neg h2]; exact Nat.zero_le _

/-- … and never adds a retrieval request (same bundle, larger score). -/
theorem C13_retrieve_antitone (b : Bundle α) (s' : α) (h : PyOrd.ge s' b.sMax = true)
    (hr : (deliberate { b with sMax := s' }).any Op.isRetrieve = true) :
    (deliberate b).any Op.isRetrieve = true := by
  rw [C13_delib_retrieve_iff] at hr ⊢
  exact ⟨lt_of_ge_of_lt h hr.1, hr.2⟩

end lawful

/-! non-vacuity on the concrete lawful carrier `Option Int` (`none` = NaN; thresholds 8 / 4) -/

def exB (s : Option Int) (ops : Int) (slice : SliceV) : Bundle (Option Int) :=
  { baseOps := ops, slice := slice, tokens := 256, tauHigh := some 8, tauLow := some 4, epsEdit := some 1,
    sMax := s, labelsT1 := [[98], [97], [97]],
    nodes := [⟨[110, 50], none, some (some 5)⟩, ⟨[110, 49], none, some (some (-3))⟩, ⟨[110, 51], none, some (some 0)⟩,
              ⟨[110, 52], none, none⟩],
    owner := .other, kRetrieval := 7 }

example : deliberate (exB (some 2) 3 .missing) =
    [.speak .question [[97], [98]] 256, .retrieve .any 3] := by decide +kernel
example : deliberate (exB (some 5) 3 .missing) =
    [.speak .assertion [[97], [98]] 256, .edit [[110, 49], [110, 50]] 2] := by decide +kernel
example : deliberate (exB (some 9) 1 .missing) = [.speak .summary [[97], [98]] 256] := by decide +kernel
example : deliberate (exB none 3 .missing) = [.speak .question [[97], [98]] 256] := by decide +kernel
example : deliberate (exB (some 2) 3 (.int 0)) = [] := by decide +kernel
example : deliberate (exB (some 2) (-2) .bad) = [] := by decide +kernel
example : (deliberate (exB (some 2) 3 .missing)).any Op.isRetrieve = true ∧
    PyOrd.lt (some 2 : Option Int) (some 4) = true ∧ (2 : Int) ≤ capsOps (exB (some 2) 3 .missing) := by decide +kernel

end Clem.Props.C13
