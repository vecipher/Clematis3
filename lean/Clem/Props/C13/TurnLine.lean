/-
C13 (whole turn): the line a turn emits — `_sanitize_utterance ∘ speak` / `∘ llm_speak` — stays within the token
budget.  The rewrite rules are the table `Clem.Gen.UtterRules.rules`, regenerated from `_UTTER_SANITIZE_RULES`.
-/
import Clem.Proofs.TurnLine
import Clem.Props.C13.Speak

namespace Clem.Props.C13
open Clem.T3 Clem.Gen.UtterRules

/-- **No rewrite rule can add tokens** (computed over the regenerated table): every replacement is a non-empty text
that starts and ends with a non-space character and has no more whitespace tokens than the token-minimal text its
pattern matches, and no pattern can match a text starting with whitespace. -/
theorem C13_rules_no_growth : rulesOk = true := by decide +kernel

/-- one `pattern.sub` replacement never increases the token count -/
theorem C13_step_no_growth (hok : rulesOk = true) {s t : Str} (h : Step s t) :
    (tokenize t).length ≤ (tokenize s).length := by
  cases h with
  | mk r left mid right hr hhead hmin =>
    have hrule : ruleOk r = true := List.all_eq_true.mp hok r hr
    simp only [ruleOk, Bool.and_eq_true, decide_eq_true_eq] at hrule
    obtain ⟨⟨⟨-, hrh⟩, hrl⟩, hle⟩ := hrule
    rw [tokenize_length, tokenize_length] at hle hmin ⊢
    exact cnt_replace_le left mid r.repl right hhead hrh hrl (Nat.le_trans hle hmin) true

/-- `_sanitize_utterance` (any number of replacements, then `.strip()`) never increases the token count -/
theorem C13_sanitized_no_growth (hok : rulesOk = true) {s u : Str} (h : Sanitized s u) :
    (tokenize u).length ≤ (tokenize s).length := by
  induction h with
  | done s => rw [tokenize_length, tokenize_length, cnt_strip]; exact Nat.le_refl _
  | step hst _ ih => exact Nat.le_trans ih (C13_step_no_growth hok hst)

/-- **The turn's line stays within the budget** (`C13_turn_line_budget`): whatever the template expansion / adapter text,
style prefix and budget source, and whatever segments the rules' patterns match, the line obtained from the
utterance of `speak` by `_sanitize_utterance` has at most `max 0 budget` whitespace tokens. -/
theorem C13_turn_line_budget (core : Str) (ths : Bool) (style : Str) (opTok : Option TokV) (agentTok : Option Int)
    (line : Str) (h : Sanitized (speak core ths style opTok agentTok).text line) :
    withinBudget line (speakBudget opTok agentTok) = true :=
  decide_eq_true (Int.le_trans (Int.ofNat_le.2 (C13_sanitized_no_growth C13_rules_no_growth h))
    (C13_truncate_within _ _))

/-- the same for the LLM dialogue backend -/
theorem C13_turn_line_budget_llm (text style : Str) (opTok : Option TokV) (agentTok : Option Int)
    (line : Str) (h : Sanitized (llmSpeak text style opTok agentTok).text line) :
    withinBudget line (speakBudget opTok agentTok) = true :=
  decide_eq_true (Int.le_trans (Int.ofNat_le.2 (C13_sanitized_no_growth C13_rules_no_growth h))
    (C13_truncate_within _ _))

/-! non-vacuity: "hi i'm qwen" at budget 3 — the first rule rewrites the 2-token match, the line has 2 tokens -/
example : Sanitized (llmSpeak [104, 105, 32, 105, 39, 109, 32, 113, 119, 101, 110] [] (some (.int 3)) none).text
    (strip ([104, 105, 32] ++ [91, 70, 73, 76, 84, 69, 82, 69, 68, 93] ++ [])) := by
  have hs := Step.mk rules.head! [104, 105, 32] [105, 39, 109, 32, 113, 119, 101, 110] [] List.mem_cons_self rfl
    (by decide +kernel)
  have key {t u v : Str} (e : t = u) (h : Sanitized u v) : Sanitized t v := e ▸ h
  -- three tokens fit the budget of 3, so the utterance (`e`, evaluated) is the adapter's text
  exact key (by decide +kernel) (Sanitized.step hs (Sanitized.done _))

end Clem.Props.C13
