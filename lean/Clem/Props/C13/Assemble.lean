/-
C13 (bundle assembly): the caps the scheduler and the config ask for are the caps the planner enforces —
`deliberate ∘ assemble_bundle` and `rag_once ∘ assemble_bundle`, for every value of `ctx.slice_budgets`.
-/
import Clem.Props.C13.Rag
import Clem.Model.T3Assemble

namespace Clem.Props.C13
open Clem.T3

/-- **Every integer slice cap is forwarded**, 0 and negatives included; only `None` / absent / unreadable values are not -/
theorem C13_assemble_forwards (i : Int) : forwardSlice (.key (.int i)) = .int i := rfl

theorem C13_assemble_forwards_iff (sb : SliceBudgets) :
    (∃ i, forwardSlice sb = .int i) ↔ ∃ i, sb = .key (.int i) := by
  constructor
  · rintro ⟨i, h⟩
    cases sb with
    | key v => cases v with
      | int j => exact ⟨j, rfl⟩
      | _ => cases h
    | _ => cases h
  · rintro ⟨i, rfl⟩; exact ⟨i, rfl⟩

section
variable {α : Type} [PyOrd α]

omit [PyOrd α] in
/-- the cap the planner computes from the assembled bundle is the requested one -/
theorem C13_assemble_capsOps (perTurn : Int) (sb : SliceBudgets) (rest : Bundle α) :
    capsOps (assembled perTurn sb rest) = requestedCap perTurn sb := by
  -- an integer budget is forwarded and `min`-ed with the per-turn cap; anything else falls back to `min perTurn perTurn`
  cases sb with
  | key v => cases v with
    | int i => rfl
    | _ => exact Int.min_self perTurn
  | _ => exact Int.min_self perTurn

/-- **Op cap from the ctx** (`Delib_cap` through `assemble_bundle`): a plan made from a ctx has at most
`max 0 (min perTurn sliceBudget)` ops, for every integer slice budget — 0 included — and the per-turn cap alone when
no slice budget is given. -/
theorem C13_assemble_cap (perTurn : Int) (sb : SliceBudgets) (rest : Bundle α) :
    withinRequestedCap perTurn sb (deliberate (assembled perTurn sb rest)) = true :=
  decide_eq_true (C13_assemble_capsOps perTurn sb rest ▸ C13_delib_cap (assembled perTurn sb rest))

/-- a slice budget of 0 gives the empty plan, whatever the per-turn cap and the evidence -/
theorem C13_assemble_cap_zero (perTurn : Int) (rest : Bundle α) :
    deliberate (assembled perTurn (.key (.int 0)) rest) = [] :=
  deliberate_nonpos _ (Int.min_le_right perTurn 0)

/-- the refined plan of `rag_once` keeps the requested cap as well -/
theorem C13_assemble_rag_cap (perTurn : Int) (sb : SliceBudgets) (rest : Bundle α)
    (r : Owner × Int → List (Hit α)) (used : Bool) :
    withinRequestedCap perTurn sb
      (ragOnce (assembled perTurn sb rest) (deliberate (assembled perTurn sb rest)) r used).ops = true :=
  decide_eq_true (C13_assemble_capsOps perTurn sb rest ▸ C13_rag_cap_delib (assembled perTurn sb rest) r used)

end

example : deliberate (assembled 3 (.key (.int 0)) (exB (some 2) 8 .missing)) = [] := by decide +kernel
example : (deliberate (assembled 3 (.key .none) (exB (some 2) 8 .missing))).length = 2 := by decide +kernel
example : (deliberate (assembled 3 (.key (.int 1)) (exB (some 2) 8 .missing))).length = 1 := by decide +kernel
example : (deliberate (assembled 2 (.key (.int 5)) (exB (some 5) 8 .missing))).length = 2 := by decide +kernel
example : (deliberate (assembled 3 .absent (exB (some 2) 8 (.int 0)))).length = 2 := by decide +kernel

end Clem.Props.C13
