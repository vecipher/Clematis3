/-
C13 (dialogue part): the utterance never exceeds its token budget.
Tokens are those of `str.split()` on code points (`tokenize`), truncation is `" ".join(toks[:max_tokens])`.
-/
import Clem.Proofs.T3Speak

namespace Clem.Props.C13
open Clem.T3

/-- exact characterisation of `_truncate_to_tokens`: the tokens of the returned text are the first
`max_tokens` tokens of the input (none when `max_tokens ≤ 0`) -/
theorem C13_truncate_tokens (s : Str) (m : Int) :
    tokenize (truncate s m).text = if m ≤ 0 then [] else (tokenize s).take m.toNat := by
  rw [(truncate_spec s m).1]
  split
  · rw [Int.toNat_of_nonpos ‹_›]; rfl
  · rfl

/-- **Token budget** (`Speak_budget`): the truncated text has at most `max 0 max_tokens` whitespace tokens … -/
theorem C13_truncate_within (s : Str) (m : Int) :
    ((tokenize (truncate s m).text).length : Int) ≤ max 0 m := by
  rw [(truncate_spec s m).1]
  exact Int.le_trans (Int.ofNat_le.2 (List.length_take_le _ _))
    (Int.le_of_eq ((Int.toNat_eq_max m).trans (Int.max_comm m 0)))

/-- … the reported token count is the real one … -/
theorem C13_truncate_count_exact (s : Str) (m : Int) :
    (truncate s m).tokens = (tokenize (truncate s m).text).length := by
  rw [(truncate_spec s m).1, (truncate_spec s m).2.1, List.length_take]

/-- … and `truncated` is reported exactly when tokens were dropped or the budget is ≤ 0 -/
theorem C13_truncate_flag (s : Str) (m : Int) :
    (truncate s m).truncated = true ↔ (m ≤ 0 ∨ m < (tokenize s).length) :=
  (truncate_spec s m).2.2.1

/-- text that already fits is returned unchanged (no re-spacing) -/
theorem C13_truncate_fits (s : Str) (m : Int) (h0 : 0 < m) (h : ((tokenize s).length : Int) ≤ m) :
    (truncate s m).text = s :=
  (truncate_spec s m).2.2.2 (Bool.eq_false_iff.2 fun ht =>
    ((truncate_spec s m).2.2.1.1 ht).elim (Int.not_le.2 h0) (Int.not_lt.2 h))

/-- **`speak` stays within its budget**, for every template expansion `core`, style prefix and budget source -/
theorem C13_speak_budget (core : Str) (ths : Bool) (style : Str) (opTok : Option TokV) (agentTok : Option Int) :
    withinBudget (speak core ths style opTok agentTok).text (speakBudget opTok agentTok) = true :=
  decide_eq_true (C13_truncate_within _ _)

/-- the same for the LLM dialogue backend, whatever text the adapter returns -/
theorem C13_llm_speak_budget (text style : Str) (opTok : Option TokV) (agentTok : Option Int) :
    withinBudget (llmSpeak text style opTok agentTok).text (speakBudget opTok agentTok) = true :=
  decide_eq_true (C13_truncate_within _ _)

/-- for budgets ≥ 1 (everything the validator admits) this is the plain `tokens ≤ budget` -/
theorem C13_speak_budget_pos (core : Str) (ths : Bool) (style : Str) (opTok : Option TokV) (agentTok : Option Int)
    (h : 1 ≤ speakBudget opTok agentTok) :
    ((tokenize (speak core ths style opTok agentTok).text).length : Int) ≤ speakBudget opTok agentTok :=
  Int.le_trans (C13_truncate_within _ _) (Int.max_le.2 ⟨Int.le_trans (by decide) h, Int.le_refl _⟩)

/-- where the budget comes from: the Speak op's `max_tokens` when truthy (256 when `int()` fails on it),
otherwise the agent's token cap (256 when absent/unreadable) -/
theorem C13_speak_budget_source (i : Int) (a : Option Int) :
    speakBudget (some (.int i)) a = i ∧ speakBudget (some .raises) a = 256 ∧
    speakBudget (some .falsy) a = a.getD 256 ∧ speakBudget none a = a.getD 256 :=
  ⟨rfl, rfl, rfl, rfl⟩

/-- **`max_tokens = 0` quirk** (`Speak_budget_zero_quirk`): a Speak op with `max_tokens = 0` is *falsy*, so the
budget silently falls back to the agent cap and the utterance may have tokens although the op asked for none.
(`deliberate` copies `t3.tokens`, which the validator keeps ≥ 1, so validated configs never get here.) -/
theorem C13_speak_budget_zero_quirk :
    speakBudget (some .falsy) (some 5) = 5 ∧
    (tokenize (speak [97, 32, 98, 32, 99] true [] (some .falsy) (some 5)).text).length = 3 ∧
    ¬ withinBudget (speak [97, 32, 98, 32, 99] true [] (some .falsy) (some 5)).text 0 = true := by decide +kernel

/-! non-vacuity -/
example : (truncate [97, 32, 32, 98, 9, 99, 32] 2) = ⟨[97, 32, 98], true, 2⟩ := by decide +kernel
example : (truncate [97, 32, 32, 98, 9, 99, 32] 3) = ⟨[97, 32, 32, 98, 9, 99, 32], false, 3⟩ := by decide +kernel
example : (truncate [97, 32, 98] 0) = ⟨[], true, 0⟩ := by decide +kernel
example : (truncate [97, 32, 98] (-3)) = ⟨[], true, 0⟩ := by decide +kernel
example : speak [120, 32, 121] false [115] (some (.int 2)) none = ⟨[115, 124, 32, 120], true, 2⟩ := by decide +kernel
example : llmSpeak [115, 124, 32, 120, 32, 121] [115] none (some 2) = ⟨[115, 124, 32, 120], true, 2⟩ := by decide +kernel

end Clem.Props.C13
