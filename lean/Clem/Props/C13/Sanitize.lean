/-
C13 (sanitiser part): `parse_and_validate` is total and sound; schema constants and enforcement agree.
`json.loads` is an oracle `parse : Str → Option J` that may fail on any input; limits, key tuples, accepted
words and the `try/except` guard flag are read from `Clem.Gen.T3Consts`, regenerated from the source.
-/
import Clem.Proofs.Sanitize

namespace Clem.Props.C13
open Clem.Sanitize Clem.Gen.T3Consts
open Clem.T3 (Str strip)

/-! ### tables regenerated from the source -/

/-- the documented limits -/
theorem C13_documented_limits :
    PLAN_MAX_ITEMS = 16 ∧ PLAN_ITEM_MAX_LEN = 200 ∧ RATIONALE_MAX_LEN = 2000 ∧ MAX_RAW_LEN = 20000 :=
  ⟨rfl, rfl, rfl, rfl⟩

/-- **Schema and enforcement agree**: the limits written in the `PLANNER_V1` schema dict are the constants the
sanitiser compares against, the schema's required / allowed keys are the tuples the sanitiser iterates over, and
every `len(..)` comparison in `parse_and_validate` is `>` against the documented constant (or `== 0`). -/
theorem C13_schema_enforcement_agree :
    schemaPlanMaxItems = PLAN_MAX_ITEMS ∧ schemaItemMaxLen = PLAN_ITEM_MAX_LEN ∧
    schemaRationaleMaxLen = RATIONALE_MAX_LEN ∧ schemaPlanMinItems = 0 ∧ schemaItemMinLen = 1 ∧
    schemaRationaleMinLen = 1 ∧ schemaAdditionalProperties = false ∧ schemaTopIsObject = true ∧
    schemaPlanIsArrayOfString = true ∧ schemaRationaleIsString = true ∧
    schemaRequired = requiredKeys ∧ schemaProperties = allowedKeys ∧
    lenChecks = [(0, 0, (MAX_RAW_LEN : Int)), (1, 0, (MAX_RAW_LEN : Int)), (2, 0, (PLAN_MAX_ITEMS : Int)), (3, 4, 0),
                 (5, 4, 0), (3, 0, (PLAN_ITEM_MAX_LEN : Int)), (4, 4, 0), (4, 0, (RATIONALE_MAX_LEN : Int))] := by
  decide +kernel

/-- the key tuples, fence languages, boolean-like words and the `json.loads` guard the model relies on -/
theorem C13_sanitize_tables :
    requiredKeys = [kPlan, kRationale] ∧ allowedKeys = [kPlan, kRationale, kReflection] ∧
    jsonLoadsCalls = 1 ∧ jsonLoadsGuarded = true ∧ fenceLangNoneAllowed = true ∧
    fenceLangs = [[], [106, 115, 111, 110], [106, 115, 111, 110, 99]] ∧
    trueWords = [[116, 114, 117, 101], [116], [121, 101, 115], [121], [49]] ∧
    falseWords = [[102, 97, 108, 115, 101], [102], [110, 111], [110], [48]] := by decide +kernel

/-! ### totality -/

/-- **No input makes the sanitiser raise** (`Sanitize_total`): for every argument (string or not) and every
behaviour of `json.loads` (any result, or an exception on any input), `parse_and_validate` returns
`(True, obj)` or `(False, reason)`. -/
theorem C13_sanitize_total (parse : Str → Option J) (text : Option Str) :
    parseAndValidate parse text ≠ .raised := by
  rcases parseAndValidate_cases parse text with ⟨q, -, h⟩ | ⟨t, j, a, -, -, -, -, -, -, h⟩ <;> rw [h] <;> nofun

/-! ### soundness -/

/-- **Sanitiser soundness** (`Sanitize_sound`): whatever is accepted is a JSON *object* whose keys are among
`plan`, `rationale`, `reflection`; `plan` is an array of at most 16 strings, each non-blank and at most 200
code points; `rationale` is a non-empty string of at most 2000 code points; `reflection`, when present, is
boolean-like and is returned coerced; the returned plan / rationale are the parsed ones. -/
theorem C13_sanitize_sound (j : J) (a : Accepted) (h : validate j = .ok a) : WithinLimits j a := by
  rcases validate_cases j with ⟨q, -, e⟩ | ⟨a', e, hw⟩ <;> rw [e] at h <;> cases h
  exact hw

/-- the Boolean monitors the harness evaluates on the implementation's accepted outputs follow -/
theorem C13_sanitize_sound_monitors (j : J) (a : Accepted) (h : validate j = .ok a) :
    acceptable j = true ∧ acceptedWithin a = true := by
  obtain ⟨kvs, items, r, hj, hkeys, hp, hlen, hitems, hr, hr0, hr1, hrefl, hpl, hra⟩ := C13_sanitize_sound j a h
  subst hj
  constructor
  · simp only [acceptable, hp, hr, Bool.and_eq_true, List.all_eq_true, decide_eq_true_eq]
    refine ⟨⟨⟨?_, hlen, ?_⟩, hr0, hr1⟩, ?_⟩
    · intro kv hkv; simpa using hkeys kv hkv
    · intro x hx
      obtain ⟨s, rfl, h0, h1⟩ := hitems x hx
      simp [itemWithin, h0, h1]
    · rcases hrefl with ⟨hn, _⟩ | ⟨v, hv, hc⟩
      · rw [hn]
      · rw [hv]; simp [boolLike, hc]
  · simp only [acceptedWithin, hpl, hra, Bool.and_eq_true, List.all_eq_true, decide_eq_true_eq, List.length_map]
    refine ⟨⟨⟨hlen, ?_⟩, hr0⟩, hr1⟩
    intro s hs
    obtain ⟨x, hx, rfl⟩ := List.mem_map.1 hs
    obtain ⟨s', rfl, h0, h1⟩ := hitems x hx
    exact ⟨h0, h1⟩

/-- **Accepted only if it is a single JSON object**: acceptance requires a `str` of at most 20 000 code points
whose *entire* fence-stripped candidate (bare, or one ``` / ```json / ```jsonc block) is parsed by `json.loads`
into a value that passes the validator — any surrounding prose is part of what `json.loads` must accept. -/
theorem C13_sanitize_accept_only_if (parse : Str → Option J) (text : Option Str) (a : Accepted)
    (h : parseAndValidate parse text = .ok a) :
    ∃ t, text = some t ∧ t.length ≤ MAX_RAW_LEN ∧ langOk (stripFences t).2 = true ∧
      ∃ j, parse (stripFences t).1 = some j ∧ validate j = .ok a ∧ WithinLimits j a := by
  rcases parseAndValidate_cases parse text with ⟨q, -, e⟩ | ⟨t, j, a', ht, hlen, hlang, hj, hv, hw, e⟩ <;>
    rw [e] at h <;> cases h
  exact ⟨t, ht, hlen, hlang, j, hj, hv, hw⟩

/-- the second size guard (`"json block too large"`) is dead code: stripping never lengthens the text, so the
raw-size guard already covers it — the documented 20 000-code-point limit applies to the raw text. -/
theorem C13_sanitize_block_guard_unreachable (parse : Str → Option J) (text : Option Str) :
    parseAndValidate parse text ≠ .rejected .blockTooLarge := by
  rcases parseAndValidate_cases parse text with ⟨q, hq, e⟩ | ⟨t, j, a, -, -, -, -, -, -, e⟩ <;> rw [e]
  · exact fun h => hq (Res.rejected.inj h)
  · nofun

/-! ### completeness: the validator accepts exactly the acceptable values -/

/-- **The acceptance set is exactly the documented one**: a parsed value is accepted iff it is `acceptable`
(object, only documented keys, plan/rationale within limits, boolean-like reflection) -/
theorem C13_sanitize_accepts_iff (j : J) : (∃ a, validate j = .ok a) ↔ acceptable j = true := by
  constructor
  · rintro ⟨a, h⟩; exact (C13_sanitize_sound_monitors j a h).1
  · intro h
    cases j with
    | obj kvs =>
      rw [acceptable, Bool.and_eq_true, Bool.and_eq_true, Bool.and_eq_true, List.all_eq_true] at h
      obtain ⟨⟨⟨hkeys, hplan⟩, hrat⟩, hrefl⟩ := h
      split at hplan
      · rename_i items hp
        split at hrat
        · rename_i r hr
          simp only [Bool.and_eq_true, decide_eq_true_eq, List.all_eq_true] at hplan hrat
          have hreq : requiredKeys.find? (fun k => !hasKey k kvs) = none := required_present.2 ⟨⟨_, hp⟩, _, hr⟩
          have hall : kvs.find? (fun kv => !allowedKeys.contains kv.1) = none :=
            List.find?_eq_none.2 fun kv hkv => by rw [hkeys kv hkv]; exact Bool.false_ne_true
          have hbad : items.any itemBad = false :=
            List.any_eq_false.2 fun x hx => by rw [itemWithin_not_bad (hplan.2 x hx)]; exact Bool.false_ne_true
          simp only [validate, validateObj, hreq, hall, hp, hr, checkPlan, checkRationale]
          rw [if_neg (Nat.not_lt.2 hplan.1), hbad, if_neg Bool.false_ne_true, if_neg fun h =>
            (Bool.or_eq_true_iff.1 h).elim (fun h => Nat.ne_of_gt hrat.1 (eq_of_beq h))
              fun h => Nat.not_lt.2 hrat.2 (of_decide_eq_true h)]
          cases hv : kvs.lookup kReflection with
          | none => exact ⟨_, rfl⟩
          | some v =>
            rw [hv] at hrefl
            obtain ⟨bv, hb⟩ := Option.isSome_iff_exists.1 hrefl
            rw [checkReflection, hb]; exact ⟨_, rfl⟩
        · cases hrat
      · cases hplan
    | _ => cases h

/-! non-vacuity: an accepted object, and the rejections at each limit + 1 -/

def exObj (n : Nat) (item : Str) (rat : Str) (refl : Option J) : J :=
  .obj ([(kPlan, .arr (List.replicate n (.str item))), (kRationale, .str rat)] ++
        (match refl with | some v => [(kReflection, v)] | none => []))

example : validate (exObj 2 [120] [114] none) = .ok ⟨[[120], [120]], [114], false⟩ := by decide +kernel
example : validate (exObj 16 [120] [114] (some (.str [32, 89, 69, 83, 32]))) =
    .ok ⟨List.replicate 16 [120], [114], true⟩ := by decide +kernel
example : validate (exObj 17 [120] [114] none) = .rejected .planTooLong := by decide +kernel
example : validate (exObj 1 [32, 9] [114] none) = .rejected .planItem := by decide +kernel
example : validate (exObj 1 [120] [] none) = .rejected .rationale := by decide +kernel
example : validate (exObj 1 [120] [114] (some (.int 2))) = .rejected .reflection := by decide +kernel
example : validate (exObj 1 [120] [114] (some .float)) = .rejected .reflection := by decide +kernel
example : validate (.arr []) = .rejected .notObject := by decide +kernel
example : validate (.obj [(kPlan, .arr []), (kRationale, .str [114]), ([122], .null)]) =
    .rejected (.unknownKey [122]) := by decide +kernel
example : validate (.obj [(kPlan, .arr [])]) = .rejected (.missingKey kRationale) := by decide +kernel
example : parseAndValidate (fun _ => none) (some [123]) = .rejected .nonJson := by decide +kernel
example : parseAndValidate (fun _ => some (exObj 0 [] [114] none)) (some ([96, 96, 96, 106, 115, 111, 110, 10, 123, 125, 10, 96, 96, 96])) =
    .ok ⟨[], [114], false⟩ := by decide +kernel
example : parseAndValidate (fun _ => some (exObj 0 [] [114] none)) (some ([96, 96, 96, 112, 121, 10, 123, 125, 10, 96, 96, 96])) =
    .rejected .badFence := by decide +kernel
example : stripFences [32, 96, 96, 96, 74, 83, 79, 78, 32, 10, 123, 125, 10, 96, 96, 96, 10] = ([123, 125], some [106, 115, 111, 110]) := by decide +kernel
example : parseAndValidate (fun _ => none) none = .rejected .nonString := by decide +kernel

end Clem.Props.C13
