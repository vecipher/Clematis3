/-
C13 (retrieval refinement part): `rag_once` and the number of T2 invocations of a turn.
`retrieve` is an arbitrary oracle; the model records every payload handed to it (`calls`).
-/
import Clem.Props.C13.Plan

namespace Clem.Props.C13
open Clem.T3

section anyCarrier
variable {α : Type} [PyOrd α]

/-- **At most one retrieval** (`Rag_once`): whatever the plan and the oracle, `retrieve_fn` is called at most once … -/
theorem C13_rag_calls_le_one (b : Bundle α) (plan : List Op) (r : Owner × Int → List (Hit α)) (used : Bool) :
    (ragOnce b plan r used).calls.length ≤ 1 :=
  ragOnce_calls_le_one b plan r used

/-- … and not at all when the one-shot refinement was already used: the plan comes back unchanged, flagged blocked. -/
theorem C13_rag_blocked (b : Bundle α) (plan : List Op) (r : Owner × Int → List (Hit α)) :
    (ragOnce b plan r true).calls = [] ∧ (ragOnce b plan r true).ops = plan ∧
    (ragOnce b plan r true).ragBlocked = true ∧ (ragOnce b plan r true).ragUsed = false :=
  ⟨rfl, rfl, rfl, rfl⟩

/-- the oracle is consulted exactly when refinement is still available and the plan requests retrieval;
the payload is the first request, owner normalised and `k ≥ 1` -/
theorem C13_rag_calls_iff (b : Bundle α) (plan : List Op) (r : Owner × Int → List (Hit α)) (used : Bool) :
    (ragOnce b plan r used).calls.length = 1 ↔ (used = false ∧ plan.any Op.isRetrieve = true) := by
  rcases ragOnce_cases b plan r used with ⟨hidle, h⟩ | ⟨hu, ha, rr, _, h⟩ <;> rw [h]
  · refine iff_of_false (fun h0 => nomatch h0) fun ⟨hu, ha⟩ => ?_
    rcases hidle with hidle | hidle
    · exact Bool.false_ne_true (hu.symm.trans hidle)
    · exact Bool.false_ne_true (hidle.symm.trans ha)
  · exact iff_of_true rfl ⟨hu, ha⟩

theorem C13_rag_payload_k_pos (b : Bundle α) (plan : List Op) (r : Owner × Int → List (Hit α)) (used : Bool) :
    ∀ c ∈ (ragOnce b plan r used).calls, 1 ≤ c.2 ∧ c.1 ≠ Owner.other := by
  rcases ragOnce_cases b plan r used with ⟨_, h⟩ | ⟨_, _, rr, _, h⟩ <;> rw [h] <;> intro c hc
  · cases hc
  · cases List.mem_singleton.1 hc
    exact ⟨Int.le_max_left 1 _, normOwner_ne_other rr.1⟩

/-- without a retrieval request the plan is returned as is -/
theorem C13_rag_noop (b : Bundle α) (plan : List Op) (r : Owner × Int → List (Hit α)) (used : Bool)
    (h : plan.any Op.isRetrieve = false) :
    (ragOnce b plan r used).ops = plan ∧ (ragOnce b plan r used).calls = [] ∧
    (ragOnce b plan r used).ragUsed = false := by
  rcases ragOnce_cases b plan r used with ⟨_, e⟩ | ⟨_, ha, _⟩
  · rw [e]; exact ⟨rfl, rfl, rfl⟩
  · exact absurd (h.symm.trans ha) Bool.false_ne_true

/-- **Refined plan keeps the cap** (`Rag_cap`), any input plan, non-negative caps -/
theorem C13_rag_cap (b : Bundle α) (plan : List Op) (r : Owner × Int → List (Hit α)) (used : Bool)
    (hc : 0 ≤ capsOps b) (hu : (ragOnce b plan r used).ragUsed = true) :
    ((ragOnce b plan r used).ops.length : Int) ≤ capsOps b := by
  rcases ragOnce_cases b plan r used with ⟨_, h⟩ | ⟨_, _, rr, _, h⟩
  · rw [h] at hu; cases hu
  · rw [h]
    exact Int.le_trans (capOps_length _ (capsOps b) (Or.inl hc)) (Int.max_le.2 ⟨hc, Int.le_refl _⟩)

/-- … and for the planner's own plan the cap holds for every integer cap (negative caps give an empty plan,
which requests nothing) -/
theorem C13_rag_cap_delib (b : Bundle α) (r : Owner × Int → List (Hit α)) (used : Bool) :
    ((ragOnce b (deliberate b) r used).ops.length : Int) ≤ max 0 (capsOps b) := by
  rcases ragOnce_cases b (deliberate b) r used with ⟨_, h⟩ | ⟨_, ha, rr, _, h⟩
  · rw [h]; exact C13_delib_cap b
  · rcases Int.lt_or_le 0 (capsOps b) with hc | hc
    · exact Int.le_trans (C13_rag_cap b _ r used (Int.le_of_lt hc) (by rw [h]; rfl)) (Int.le_max_right _ _)
    · rw [deliberate_nonpos b hc] at ha; cases ha

/-- **Speak stays first** (`Rag_cap`, second half): if the plan starts with Speak, so does the refined plan; when a
refinement happened the head is the Speak op recomputed at the post-retrieval score `post_s_max = max(pre, rag)`. -/
theorem C13_rag_head (b : Bundle α) (plan : List Op) (r : Owner × Int → List (Hit α)) (used : Bool)
    (h : headIsSpeak plan = true) :
    headIsSpeak (ragOnce b plan r used).ops = true ∧
    ((ragOnce b plan r used).ragUsed = true →
      (ragOnce b plan r used).ops = [] ∨
      ∃ t, (ragOnce b plan r used).ops = speakOf b (ragOnce b plan r used).postSMax :: t) := by
  rcases ragOnce_cases b plan r used with ⟨_, h'⟩ | ⟨_, ha, rr, _, h'⟩ <;> rw [h']
  · exact ⟨h, fun hu => nomatch hu⟩
  · -- the refined plan is a prefix of `speakOf b post :: …`: the first Speak op is the head, an edit goes to the end
    simp only [ragRefine]
    generalize pymax b.sMax (maxScore (sortHits (r (normPayload rr)))) = post
    rcases replaceFirstSpeak_head (speakOf b post) plan h with rfl | ⟨t, ht⟩
    · cases ha
    · rw [ht]
      obtain ⟨E, hE, -⟩ := ragEdit_eq b (capsOps b) post (plan.any Op.isEdit) (speakOf b post :: t)
      obtain ⟨k, hk⟩ := capOps_eq_take (speakOf b post :: t ++ E) (capsOps b)
      rw [hE, hk]
      cases k with
      | zero => exact ⟨rfl, fun _ => Or.inl rfl⟩
      | succ k => exact ⟨rfl, fun _ => Or.inr ⟨_, rfl⟩⟩

/-- the refined score never drops below the pre-retrieval score's evidence: it is `max(pre, rag)` of CPython -/
theorem C13_rag_post (b : Bundle α) (plan : List Op) (r : Owner × Int → List (Hit α)) (rr : Owner × Int)
    (h : firstRR plan = some rr) :
    (ragOnce b plan r false).postSMax = pymax b.sMax (maxScore (sortHits (r (normPayload rr)))) := by
  unfold ragOnce
  rw [h]; rfl

/-! ### T2 invocations per turn -/

/-- **One retrieval refinement per turn** (`Turn_retrieval_count`): the T2 stage runs at most twice in a turn … -/
theorem C13_turn_t2_le_two (t : TurnIn) (b : Bundle α) (plan : List Op) (r : Owner × Int → List (Hit α)) :
    turnT2Calls t b plan r ≤ 2 :=
  (turnT2Calls_le t b plan r).elim Nat.le_succ_of_le And.right

/-- … and at most `1 + max_rag_loops` times (for every integer `max_rag_loops`; negative values behave as 0) -/
theorem C13_turn_t2_le_loops (t : TurnIn) (b : Bundle α) (plan : List Op) (r : Owner × Int → List (Hit α)) :
    (turnT2Calls t b plan r : Int) ≤ 1 + max 0 t.maxRagLoops := by
  rcases turnT2Calls_le t b plan r with h | ⟨hl, h⟩
  · exact Int.le_trans (Int.ofNat_le.2 h) (Int.le_add_of_nonneg_right (Int.le_max_left 0 _))
  · have : (1 : Int) + 1 ≤ 1 + max 0 t.maxRagLoops :=
      Int.add_le_add_left (Int.le_trans hl (Int.le_max_right _ _)) 1
    exact Int.le_trans (Int.ofNat_le.2 h) this

/-- a cached T2 result and a plan without retrieval request cost no T2 call at all -/
theorem C13_turn_t2_zero (t : TurnIn) (b : Bundle α) (plan : List Op) (r : Owner × Int → List (Hit α))
    (hc : t.cacheHit = true) (hp : plan.any Op.isRetrieve = false) : turnT2Calls t b plan r = 0 := by
  unfold turnT2Calls
  rw [hc, hp, Bool.and_false, Bool.false_and]; rfl

end anyCarrier

/-! non-vacuity, and the stated limit of `Rag_cap`: with a *negative* cap and a hand-made plan, Python's
`new_ops[:caps_ops]` only drops `|caps|` ops from the end (outside validated configs; the planner's own plan is
empty there, `C13_rag_cap_delib`). -/

def exHits : Owner × Int → List (Hit (Option Int)) := fun _ => [⟨[109, 49], some 3⟩, ⟨[109, 50], some 9⟩, ⟨[109, 48], some 9⟩]

example : (ragOnce (exB (some 2) 3 .missing) (deliberate (exB (some 2) 3 .missing)) exHits false).ops =
    [.speak .summary [[97], [98]] 256, .retrieve .any 3, .edit [[110, 49], [110, 50]] 2] := by decide +kernel
example : (ragOnce (exB (some 2) 3 .missing) (deliberate (exB (some 2) 3 .missing)) exHits false).calls = [(.any, 3)] := by decide +kernel
example : (ragOnce (exB (some 2) 3 .missing) (deliberate (exB (some 2) 3 .missing)) exHits false).retrievedIds =
    [[109, 48], [109, 50], [109, 49]] := by decide +kernel
example : (ragOnce (exB (some 2) 2 .missing) (deliberate (exB (some 2) 2 .missing)) exHits false).ops =
    [.speak .summary [[97], [98]] 256, .retrieve .any 3] := by decide +kernel
example : (ragOnce (exB (some 2) 3 .missing) (deliberate (exB (some 2) 3 .missing)) exHits true).calls = [] := by decide +kernel

theorem C13_rag_cap_negative_caps_counterexample :
    ∃ (b : Bundle (Option Int)) (plan : List Op) (r : Owner × Int → List (Hit (Option Int))),
      capsOps b < 0 ∧ (ragOnce b plan r false).ragUsed = true ∧
      ¬ (((ragOnce b plan r false).ops.length : Int) ≤ max 0 (capsOps b)) :=
  ⟨exB (some 2) (-1) .missing, [.speak .question [] 256, .retrieve .any 3, .other], exHits, by decide +kernel⟩

example : turnT2Calls ⟨false, true, false, false, 1⟩ (exB (some 2) 3 .missing)
    (deliberate (exB (some 2) 3 .missing)) exHits = 2 := by decide +kernel
example : turnT2Calls ⟨false, true, false, false, 0⟩ (exB (some 2) 3 .missing)
    (deliberate (exB (some 2) 3 .missing)) exHits = 1 := by decide +kernel

end Clem.Props.C13
