/-
C06 — Snapshots round-trip the state they were written from.

All statements are about the definitions in `Clem/Model/Snap.lean` that the driver executes against
`clematis/engine/snapshot.py` (with `proposed_fixes/C06_nonfinite_weight_clamp.diff`).
They hold for every float carrier satisfying `WLaws` and every `str()/float()/int()` satisfying
`CvLaws`; `optOps`/`idCv` below discharge those hypotheses for a concrete carrier with a NaN
(non-vacuity), the harness monitors them on IEEE doubles and the real `round`.
-/
import Clem.Proofs.Snap

namespace Clem.Props
open Clem.Snap Clem.Py.JV

/-! ## a concrete carrier: integers on a grid of 10, with a NaN (`none`) -/

def optOps : WOps (Option Int) :=
  { lt := fun a c => match a, c with
      | some x, some y => decide (x < y)
      | _, _ => false
    fin := Option.isSome
    round := fun a => a.map (fun x => 10 * ((x + 5) / 10))
    abs := fun a => a.map (fun x => if x < 0 then -x else x)
    zero := some 0
    one := some 1000
    negOne := some (-1000)
    isZero := fun a => a == some 0 }

def idCv : Cv (Option Int) :=
  { pyStr := fun
      | .str s => s
      | _ => []
    pyFloat := fun
      | .num x => some x
      | _ => none
    pyInt := fun
      | .int n => some n
      | _ => none }

theorem C06_conv_laws_nonvacuous : CvLaws idCv := ⟨fun _ => rfl, fun _ => rfl, fun _ => rfl⟩

/-! Rounding to the grid of 10 is monotone and idempotent, hence constant between `x` and its
rounding; the carrier laws need no more integer arithmetic than that. -/

namespace optOps

theorem grid_mono {x y : Int} (h : x ≤ y) : 10 * ((x + 5) / 10) ≤ 10 * ((y + 5) / 10) :=
  Int.mul_le_mul_of_nonneg_left (Int.ediv_le_ediv (by decide) (Int.add_le_add_right h 5)) (by decide)

theorem grid_idem (x : Int) : 10 * ((10 * ((x + 5) / 10) + 5) / 10) = 10 * ((x + 5) / 10) := by
  rw [Int.add_comm (10 * _), Int.add_mul_ediv_left _ _ (by decide), show (5 : Int) / 10 = 0 from rfl,
    Int.zero_add]

theorem grid_const {x y : Int}
    (h : 10 * ((x + 5) / 10) ≤ y ∧ y ≤ x ∨ x ≤ y ∧ y ≤ 10 * ((x + 5) / 10)) :
    10 * ((y + 5) / 10) = 10 * ((x + 5) / 10) := by
  rcases h with ⟨h1, h2⟩ | ⟨h1, h2⟩
  · exact Int.le_antisymm (grid_mono h2) (grid_idem x ▸ grid_mono h1)
  · exact Int.le_antisymm (grid_idem x ▸ grid_mono h2) (grid_mono h1)

theorem abs_lt_of_between {a b e : Int} (h : 0 ≤ a ∧ a ≤ b ∨ b ≤ a ∧ a ≤ 0)
    (hb : (if b < 0 then -b else b) < e) : (if a < 0 then -a else a) < e := by
  omega

theorem lt_iff {x y : Int} : optOps.lt (some x) (some y) = true ↔ x < y := decide_eq_true_iff

theorem not_lt_iff {x y : Int} : optOps.lt (some x) (some y) = false ↔ y ≤ x :=
  decide_eq_false_iff_not.trans Int.not_lt

theorem eq_some : ∀ {x : Option Int}, optOps.fin x = true → ∃ n, x = some n
  | some n, _ => ⟨n, rfl⟩

end optOps

theorem C06_carrier_laws_nonvacuous (lo hi e : Int) (h : lo < hi) : WLaws optOps ⟨some lo, some hi, some e⟩ where
  lt_irrefl
    | none => rfl
    | some x => optOps.not_lt_iff.2 (Int.le_refl x)
  lt_asymm
    | some _, some _, h => optOps.not_lt_iff.2 (Int.le_of_lt (optOps.lt_iff.1 h))
    | some _, none, h => nomatch h
    | none, _, h => nomatch h
  lo_lt_hi := optOps.lt_iff.2 h
  fin_zero := rfl
  round_zero := rfl
  round_fin
    | some _, _ => rfl
    | none, h => nomatch h
  round_idem
    | some x, _ => congrArg some (optOps.grid_idem x)
    | none, h => nomatch h
  round_const_up := by
    intro x y hf h1 h2
    obtain ⟨x, rfl⟩ := optOps.eq_some hf
    cases y with
    | none => cases h2
    | some y =>
      exact ⟨rfl, congrArg some (optOps.grid_const
        (.inr ⟨optOps.not_lt_iff.1 h1, Int.le_of_lt (optOps.lt_iff.1 h2)⟩))⟩
  round_const_dn := by
    intro x y hf h1 h2
    obtain ⟨x, rfl⟩ := optOps.eq_some hf
    cases y with
    | none => cases h2
    | some y =>
      exact ⟨rfl, congrArg some (optOps.grid_const
        (.inl ⟨Int.le_of_lt (optOps.lt_iff.1 h2), optOps.not_lt_iff.1 h1⟩))⟩
  -- `0 < lo ≤ x` gives `0 = round 0 ≤ round lo ≤ round x`, and symmetrically below zero
  prune_lo := by
    intro x h0 hf h1 h2
    obtain ⟨x, rfl⟩ := optOps.eq_some hf
    exact optOps.lt_iff.2 (optOps.abs_lt_of_between
      (.inl ⟨optOps.grid_mono (x := 0) (Int.le_of_lt (optOps.lt_iff.1 h0)),
        optOps.grid_mono (optOps.not_lt_iff.1 h1)⟩)
      (optOps.lt_iff.1 h2))
  prune_hi := by
    intro x h0 hf h1 h2
    obtain ⟨x, rfl⟩ := optOps.eq_some hf
    exact optOps.lt_iff.2 (optOps.abs_lt_of_between
      (.inr ⟨optOps.grid_mono (optOps.not_lt_iff.1 h1),
        optOps.grid_mono (y := 0) (Int.le_of_lt (optOps.lt_iff.1 h0))⟩)
      (optOps.lt_iff.1 h2))

section Main
variable {W : Type} {o : WOps W} {cv : Cv W} {b : Bounds W}

/-- The weight pipeline is idempotent *as computed* (it does not rely on the result lying inside
bounds that have more than six decimals). -/
theorem C06_sw_idempotent (L : WLaws o b) (w : W) : sw o b (sw o b w) = sw o b w := sw_idem L w

example : ∀ w, sw optOps ⟨some (-1000), some 1000, some 3⟩ (sw optOps ⟨some (-1000), some 1000, some 3⟩ w)
    = sw optOps ⟨some (-1000), some 1000, some 3⟩ w :=
  C06_sw_idempotent (C06_carrier_laws_nonvacuous _ _ _ (by decide))

/-- Negation witness for the code *before* `proposed_fixes/C06_nonfinite_weight_clamp.diff`:
with bounds `[500, 1000]` (0 outside) a NaN weight is written as 0, re-read as 500. -/
theorem C06_unrepaired_not_idempotent :
    swOld optOps ⟨some 500, some 1000, some 0⟩ (swOld optOps ⟨some 500, some 1000, some 0⟩ none)
      ≠ swOld optOps ⟨some 500, some 1000, some 0⟩ none := by decide +kernel

/-- the repaired pipeline on the same input is a fixed point -/
example : sw optOps ⟨some 500, some 1000, some 0⟩ none = some 500 := by decide +kernel

/-- NaN ↦ 0.0 whenever 0.0 lies within the bounds. -/
theorem C06_nonfinite_nan (L : WLaws o b) {w : W} (hnf : o.fin w = false)
    (h1 : o.lt w b.wmin = false) (h2 : o.lt b.wmax w = false)
    (z1 : o.lt o.zero b.wmin = false) (z2 : o.lt b.wmax o.zero = false) : sw o b w = o.zero := by
  rw [sw_eq, pre, clamp_of_inRange ⟨h1, h2⟩, if_neg (Bool.eq_false_iff.1 hnf), clamp_of_inRange ⟨z1, z2⟩,
    round6_zero L, prune_zero]

example : sw optOps ⟨some (-1000), some 1000, some 0⟩ none = some 0 :=
  C06_nonfinite_nan (C06_carrier_laws_nonvacuous _ _ _ (by decide)) rfl rfl rfl rfl rfl

/-- NaN in general: the in-bounds value nearest 0.0, rounded and pruned. -/
theorem C06_nonfinite_nan_general {w : W} (hnf : o.fin w = false) (h1 : o.lt w b.wmin = false)
    (h2 : o.lt b.wmax w = false) :
    sw o b w = prune o b.eps (round6 o (clamp o o.zero b.wmin b.wmax)) := by
  rw [sw_eq, pre, clamp_of_inRange ⟨h1, h2⟩, if_neg (Bool.eq_false_iff.1 hnf)]

/-- `+inf` (anything above the upper bound) ↦ the rounded upper bound. -/
theorem C06_nonfinite_above {w : W} (h1 : o.lt w b.wmin = false) (h2 : o.lt b.wmax w = true)
    (hf : o.fin b.wmax = true) : sw o b w = prune o b.eps (o.round b.wmax) := by
  rw [sw_eq, pre, clamp, if_neg (Bool.eq_false_iff.1 h1), if_pos h2, if_pos hf, round6, if_pos hf]

/-- `-inf` (anything below the lower bound) ↦ the rounded lower bound. -/
theorem C06_nonfinite_below {w : W} (h1 : o.lt w b.wmin = true) (hf : o.fin b.wmin = true) :
    sw o b w = prune o b.eps (o.round b.wmin) := by
  rw [sw_eq, pre, clamp, if_pos h1, if_pos hf, round6, if_pos hf]

example : sw optOps ⟨some (-1000), some 1000, some 0⟩ (some 123456) = some 1000 := by decide +kernel

/-- `_graph_bounds_from_cfg` never yields inverted or NaN bounds. -/
theorem C06_bounds_ordered (h : o.lt o.negOne o.one = true) (gmin tmin gmax tmax e : Option W) :
    o.lt (mkBounds o gmin tmin gmax tmax e).wmin (mkBounds o gmin tmin gmax tmax e).wmax = true := by
  unfold mkBounds
  by_cases hk : o.lt (gmin.getD (tmin.getD o.negOne)) (gmax.getD (tmax.getD o.one)) = true
  · simp [hk]
  · simp [hk, h]

/-- Re-assigning an existing key keeps every key where it was … -/
theorem C06_collapse_keeps_position {V : Type} (k : Str) (v : V) (l : List (Str × V))
    (h : k ∈ keys l) : keys (ainsert k v l) = keys l := (keys_ainsert k v l).trans (if_pos h)

/-- … and the value read back is the last one written. -/
theorem C06_collapse_last_value {V : Type} (k : Str) (v : V) (l : List (Str × V)) :
    aget k (ainsert k v l) = some v := (aget_ainsert k k v l).trans (if_pos rfl)

/-- other keys are untouched -/
theorem C06_collapse_other_untouched {V : Type} (k k' : Str) (v : V) (l : List (Str × V))
    (h : k' ≠ k) : aget k' (ainsert k v l) = aget k' l := (aget_ainsert k k' v l).trans (if_neg h.symm)

/-- `_sanitize_gel_for_write` is idempotent: sanitising its own output (as the JSON value it is)
returns that output unchanged — nodes, edge order, keys, weights, meta. -/
theorem C06_sanitize_idempotent (L : WLaws o b) (C : CvLaws cv) {g : J W} {S : Gel W}
    (h : sanitizeW o cv b g = some S) : sanitizeW o cv b S.toJ = some S :=
  sanitizeW_fix C (sanitizeW_san (sw_idem L) h)

/-- The `gel` section `write_snapshot` stores (sanitise, then canonical `src→dst` re-keying with
first-position/last-value collapse) is a fixed point of the write path … -/
theorem C06_canon_idempotent (L : WLaws o b) (C : CvLaws cv) {g : J W} {G : Gel W}
    (h : canonW o cv b g = some G) : canonW o cv b G.toJ = some G :=
  canonW_fix C (canonW_canon C (sw_idem L) h)

/-- … and of the load path: what `load_latest_snapshot` rebuilds from the written section is the
written section itself (insertion order included). -/
theorem C06_canon_load (L : WLaws o b) (C : CvLaws cv) {g : J W} {G : Gel W}
    (h : canonW o cv b g = some G) : canonL o cv b G.toJ = some G :=
  canonL_fix C (canonW_canon C (sw_idem L) h)

/-- every stored weight is a fixed point of the weight pipeline (clamped, rounded, pruned) -/
theorem C06_written_weights_sanitised (L : WLaws o b) (C : CvLaws cv) {g : J W} {G : Gel W}
    (h : canonW o cv b g = some G) : ∀ p ∈ G.edges, ∃ s d r w u a x,
      p.2 = .obj (edgeRec s d r w u a ++ x) ∧ sw o b w = w := by
  intro p hp
  obtain ⟨s, d, r, w, u, a, rfl, hw⟩ := (canonW_canon C (sw_idem L) h).2.1.2.1 p hp
  obtain ⟨x, hx⟩ := canonEntry_snd s d r w u a
  exact ⟨s, d, r, w, u, a, x, hx, hw⟩

/-- **load ∘ write.** Loading the body written from state `i` into a fresh state sets
`version_etag = str(version)`, restores the graph to exactly the canonical form that was written,
and returns the written version. (`hG`: sanitisation did not raise, i.e. `graph.meta` is a dict or
falsy — see `C06_fixpoint_needs_meta_dict`.) -/
theorem C06_load_write (L : WLaws o b) (C : CvLaws cv) (i : WriteIn W) (fresh : Store W) {G : Gel W}
    (hG : canonW o cv b (graphState o i) = some G) :
    ∃ l, loadFrom o cv b (payloadOf o cv b i) fresh = some l ∧
      l.graph = G ∧ l.ver = i.version ∧
      l.version = (if isNull i.version then none else some (cv.pyStr i.version)) ∧
      l.store = (loadStore o cv fresh (some (exportStore i.store))).1 :=
  ⟨_, load_payload i fresh, load_payload_graph L C hG fresh, load_payload_ver i fresh,
    load_payload_version i fresh, load_payload_store i fresh⟩

/-- a string version is restored verbatim -/
theorem C06_load_version_str (C : CvLaws cv) (i : WriteIn W) (fresh : Store W)
    (v : Str) (hv : i.version = .str v) :
    ∃ l, loadFrom o cv b (payloadOf o cv b i) fresh = some l ∧ l.version = some v := by
  refine ⟨_, load_payload i fresh, ?_⟩
  rw [load_payload_version, hv, C.str_str]; rfl

/-- **store weights (and opaque store state) are restored exactly, in order.** -/
theorem C06_load_store (C : CvLaws cv) (i : WriteIn W) (fresh : Store W)
    (hs : StoreOk i.store fresh) :
    ∃ l, loadFrom o cv b (payloadOf o cv b i) fresh = some l ∧ l.store = i.store :=
  ⟨_, load_payload i fresh, (load_payload_store i fresh).trans (loadStore_export C hs)⟩

/-- One write → load-into-fresh-state round on a `Stable` state: the next write produces the same
body, and the reloaded state is `Stable` again.  Everything about chains below projects from this. -/
theorem C06_reload_spec (L : WLaws o b) (C : CvLaws cv) {fresh : Store W} {i : WriteIn W}
    (h : Stable o cv b fresh i) :
    payloadOf o cv b (reload o cv b fresh i) = payloadOf o cv b i ∧
    Stable o cv b fresh (reload o cv b fresh i) := by
  obtain ⟨⟨v, hv⟩, ⟨G, hG⟩, hs⟩ := h
  -- the reloaded state differs from `i` in `graph`/`gel` only: both hold the canonical `G`
  have hre : reload o cv b fresh i = { i with graph := G.toJ, gel := G.toJ } := by
    show rewriteIn i (loadKV o cv b (payloadKV o cv b i) fresh) = _
    rw [rewriteIn, load_payload_graph L C hG, load_payload_version, load_payload_store,
      loadStore_export C hs, hv, C.str_str]
    rfl
  have hcan : canonW o cv b (graphState o (reload o cv b fresh i)) = some G := by
    rw [hre]; exact C06_canon_idempotent L C hG
  refine ⟨?_, ⟨v, by rw [hre]; exact hv⟩, ⟨G, hcan⟩, by rw [hre]; exact hs⟩
  unfold payloadOf payloadKV
  rw [gelSection_of hcan, gelSection_of hG, hre]

/-- **Byte fixpoint.** `write(load(write s)) = write s` as ordered JSON values: same keys in the
same order at every level, same floats — hence the same bytes under any serialiser that is a
function of the ordered value (`json.dumps`). -/
theorem C06_byte_fixpoint (L : WLaws o b) (C : CvLaws cv) {fresh : Store W} {i : WriteIn W}
    (h : Stable o cv b fresh i) :
    ∃ l, loadFrom o cv b (payloadOf o cv b i) fresh = some l ∧
      payloadOf o cv b (rewriteIn i l) = payloadOf o cv b i := by
  refine ⟨loadKV o cv b (payloadKV o cv b i) fresh, rfl, ?_⟩
  have := (C06_reload_spec L C h).1
  unfold reload at this
  exact this

/-- the same through any serialiser `ser` of the ordered value -/
theorem C06_byte_fixpoint_bytes {β : Type} (ser : J W → β) (L : WLaws o b) (C : CvLaws cv)
    {fresh : Store W} {i : WriteIn W} (h : Stable o cv b fresh i) :
    ser (payloadOf o cv b (reload o cv b fresh i)) = ser (payloadOf o cv b i) := by
  rw [(C06_reload_spec L C h).1]

/-- **All write-load-write chains**: after any number of reloads the body is the first body. -/
theorem C06_chain (L : WLaws o b) (C : CvLaws cv) {fresh : Store W} {i : WriteIn W}
    (h : Stable o cv b fresh i) (n : Nat) :
    payloadOf o cv b (reloadN o cv b fresh n i) = payloadOf o cv b i ∧
    Stable o cv b fresh (reloadN o cv b fresh n i) := by
  induction n with
  | zero => exact ⟨rfl, h⟩
  | succ k ih =>
    have := C06_reload_spec L C ih.2
    exact ⟨this.1.trans ih.1, this.2⟩

/-- From the second write on the hypotheses hold by construction: whatever the first state was
(as long as its version is a string and the stores are compatible), the state after one reload is
stable — in particular malformed graphs only cost the first rewrite. -/
theorem C06_stable_after_reload (L : WLaws o b) (C : CvLaws cv) {fresh : Store W} {i : WriteIn W}
    (h : Stable o cv b fresh i) : Stable o cv b fresh (reload o cv b fresh i) :=
  (C06_reload_spec L C h).2

/-- every body `write_snapshot` produces carries `schema_version = "v1"` — on the normal and on
the fallback branch alike -/
theorem C06_schema_marker (i : WriteIn W) : hasMarker (payloadOf o cv b i) = true := rfl

/-- … and so does the `.meta` sidecar -/
theorem C06_schema_marker_sidecar (createdAt : Str) : hasMarker (sidecarOf (W := W) createdAt) = true := rfl

/-- the marker sits at a fixed position of a fixed key order -/
theorem C06_payload_keys (i : WriteIn W) : keys (payloadKV o cv b i) =
    [kTurn, kAgent, kVersionEtag, kApplied, kDeltas, kSchemaVersion, kStore, kGraphSchemaVersion,
     kGel, kGraph] := rfl

end Main

/-- Whatever `_pick_latest_snapshot_path` returns is a member of the listing whose name ends in
`.json`; it is therefore never a `.meta` sidecar and never an atomic-write temporary. -/
theorem C06_pick_json_only {l : List Ent} {n : Str} (h : pickLatest l = some n) :
    (∃ e ∈ l, e.name = n) ∧ endsWith n sDotJson = true ∧ endsWith n sDotMeta = false ∧
      isAtomicTemp n = false := by
  rcases pickLatest_mem l with ⟨e, hm, he, hj⟩ | ⟨hn, _⟩
  · cases he.symm.trans h
    exact ⟨⟨e, hm, rfl⟩, hj, not_meta_of_json hj, not_temp_of_json hj⟩
  · cases hn.symm.trans h

/-- Discovery never returns a name of the atomic-write temporary shape (`<final>.XXXXXXXX`, no dot
in the 8-character suffix).  The hypothesis `isAtomicTemp t = true` is decided by the driver on the
names the real `clematis.io.atomic._make_tmp` produces (monitor `lean.real_temps_have_temp_shape`). -/
theorem C06_pick_never_temp {l : List Ent} {n t : Str} (h : pickLatest l = some n)
    (ht : isAtomicTemp t = true) : n ≠ t := by
  intro e
  have := (C06_pick_json_only h).2.2.2
  rw [e, ht] at this
  cases this

/-- the shape a suffix-preserving temp (`state_A.json.abcd1234.json`) would have is *not* covered -/
example : isAtomicTemp [115,116,97,116,101,95,65,46,106,115,111,110,46,97,98,99,100,49,50,51,52,46,106,115,111,110] = false := by decide +kernel

/-- `None` exactly when the directory holds no `.json` name at all -/
theorem C06_pick_none_iff (l : List Ent) :
    pickLatest l = none ↔ ∀ e ∈ l, endsWith e.name sDotJson = false := by
  rcases pickLatest_mem l with ⟨e, hm, he, hj⟩ | ⟨hn, hno⟩
  · refine ⟨fun h => ?_, fun h => absurd hj (Bool.eq_false_iff.1 (h e hm))⟩
    cases he.symm.trans h
  · exact ⟨fun _ => hno, fun _ => hn⟩

/-- precedence 1: if any `snap_<digits>.json` exists, the result is one with the largest number -/
theorem C06_pick_precedence_snap {l : List Ent} {x : Ent} (hx : x ∈ l)
    (hj : endsWith x.name sDotJson = true) (hn : isNumbered x.name = true) :
    ∃ e ∈ l, pickLatest l = some e.name ∧ isNumbered e.name = true ∧
      ∀ y ∈ l, endsWith y.name sDotJson = true → isNumbered y.name = true → numOf y ≤ numOf e := by
  rcases pickLatest_cases l with ⟨e, he, hm, _, hnum, hmax⟩ | ⟨hnn, _⟩ | ⟨hnn, _⟩ | ⟨_, hnj⟩
  · exact ⟨e, hm, he, hnum, hmax⟩
  · exact absurd hn (Bool.eq_false_iff.1 (hnn x hx hj))
  · exact absurd hn (Bool.eq_false_iff.1 (hnn x hx hj))
  · exact absurd hj (Bool.eq_false_iff.1 (hnj x hx))

/-- precedence 2: no numbered snapshot but some `state_*.json` ⇒ the newest `state_*.json` -/
theorem C06_pick_precedence_state {l : List Ent} {x : Ent} (hx : x ∈ l)
    (hj : endsWith x.name sDotJson = true) (hs : startsWith x.name sStatePfx = true)
    (hno : ∀ y ∈ l, endsWith y.name sDotJson = true → isNumbered y.name = false) :
    ∃ e ∈ l, pickLatest l = some e.name ∧ startsWith e.name sStatePfx = true ∧
      ∀ y ∈ l, endsWith y.name sDotJson = true → startsWith y.name sStatePfx = true → y.mtime ≤ e.mtime := by
  rcases pickLatest_cases l with ⟨e, _, hm, hje, hnum, _⟩ | ⟨_, e, he, hm, _, hst, hmax⟩ | ⟨_, hns, _⟩ | ⟨_, hnj⟩
  · exact absurd hnum (Bool.eq_false_iff.1 (hno e hm hje))
  · exact ⟨e, hm, he, hst, hmax⟩
  · exact absurd hs (Bool.eq_false_iff.1 (hns x hx hj))
  · exact absurd hj (Bool.eq_false_iff.1 (hnj x hx))

/-- precedence 3: otherwise the newest `*.json` -/
theorem C06_pick_precedence_any {l : List Ent} {x : Ent} (hx : x ∈ l)
    (hj : endsWith x.name sDotJson = true)
    (hno : ∀ y ∈ l, endsWith y.name sDotJson = true → isNumbered y.name = false)
    (hns : ∀ y ∈ l, endsWith y.name sDotJson = true → startsWith y.name sStatePfx = false) :
    ∃ e ∈ l, pickLatest l = some e.name ∧
      ∀ y ∈ l, endsWith y.name sDotJson = true → y.mtime ≤ e.mtime := by
  rcases pickLatest_cases l with ⟨e, _, hm, hje, hnum, _⟩ | ⟨_, e, _, hm, hje, hst, _⟩ | ⟨_, _, e, he, hm, _, hmax⟩ | ⟨_, hnj⟩
  · exact absurd hnum (Bool.eq_false_iff.1 (hno e hm hje))
  · exact absurd hst (Bool.eq_false_iff.1 (hns e hm hje))
  · exact ⟨e, hm, he, hmax⟩
  · exact absurd hj (Bool.eq_false_iff.1 (hnj x hx))

/-- the Boolean monitor the driver evaluates on the implementation's choice holds of the model's -/
theorem C06_pickOk_model (l : List Ent) : pickOk l (pickLatest l) = true := by
  cases h : pickLatest l with
  | none =>
    exact List.all_eq_true.2 fun e he => by rw [(C06_pick_none_iff l).mp h e he]; rfl
  | some n =>
    obtain ⟨⟨e, he, hn⟩, hj, hm, ht⟩ := C06_pick_json_only h
    have ha : (l.any fun e => e.name == n) = true := List.any_eq_true.2 ⟨e, he, beq_iff_eq.2 hn⟩
    rw [pickOk, hj, hm, ht, ha]
    rfl

/-- `state_A.json`, its sidecar, an atomic temp, a numbered snapshot and a foreign file:
the numbered snapshot wins; without it the state file; sidecar/temp are never chosen. -/
example : pickLatest [⟨[115,116,97,116,101,95,65,46,106,115,111,110], 5⟩,
    ⟨[115,116,97,116,101,95,65,46,106,115,111,110,46,109,101,116,97], 9⟩,
    ⟨[115,116,97,116,101,95,65,46,106,115,111,110,46,97,98,99,100,49,50,51,52], 9⟩,
    ⟨[115,110,97,112,95,48,49,50,46,106,115,111,110], 1⟩,
    ⟨[120,46,106,115,111,110], 7⟩] = some [115,110,97,112,95,48,49,50,46,106,115,111,110] := by decide +kernel
example : pickLatest [⟨[115,116,97,116,101,95,65,46,106,115,111,110], 5⟩,
    ⟨[115,116,97,116,101,95,65,46,106,115,111,110,46,109,101,116,97], 9⟩,
    ⟨[115,116,97,116,101,95,65,46,106,115,111,110,46,97,98,99,100,49,50,51,52], 9⟩,
    ⟨[120,46,106,115,111,110], 7⟩] = some [115,116,97,116,101,95,65,46,106,115,111,110] := by decide +kernel
example : isAtomicTemp [115,116,97,116,101,95,65,46,106,115,111,110,46,97,98,99,100,49,50,51,52] = true := by decide +kernel

section Examples

def exB : Bounds (Option Int) := ⟨some (-1000), some 1000, some 0⟩
theorem C06_example_laws : WLaws optOps exB := C06_carrier_laws_nonvacuous _ _ _ (by decide)

/-- nodes in list form; edges `b→a (rel r, NaN)`, `c→a (no rel)`, `a→b (rel q, out of range)`:
the first and third collapse to the canonical key `a→b`. -/
def exGraph : J (Option Int) :=
  .obj [(kNodes, .arr [.obj [(kId, .str [97])], .obj [(kId, .str [98])], .null]),
        (kEdges, .arr [
          .obj [(kSrc, .str [98]), (kDst, .str [97]), (kRel, .str [114]), (kWeight, .num none)],
          .obj [(kSrc, .str [99]), (kDst, .str [97]), (kWeight, .num (some 234))],
          .obj [(kSrc, .str [97]), (kDst, .str [98]), (kRel, .str [113]), (kWeight, .num (some 123456))]])]

def exIn : WriteIn (Option Int) :=
  { turn := .int 3, agent := .str [65], version := .str [118, 49], applied := 0, deltas := .arr [],
    store := .wmap [([[110], [97], [119]], some 5), ([[110], [98], [119]], none)],
    graph := exGraph, gel := .null }

def weightOf {W : Type} : J W → Option W
  | .obj kv => match aget kWeight kv with
    | some (.num w) => some w
    | _ => none
  | _ => none

/-- first position (`a→b` before `a→c`), last value (weight of the third edge, clamped to 1000) -/
example : (canonW optOps idCv exB exGraph).map (fun G => keys G.edges)
    = some [[97, 8594, 98], [97, 8594, 99]] := by decide +kernel
example : (canonW optOps idCv exB exGraph).map (fun G => (aget [97, 8594, 98] G.edges).bind weightOf)
    = some (some (some 1000)) := by decide +kernel
example : (canonW optOps idCv exB exGraph).map (fun G => (aget [97, 8594, 99] G.edges).bind weightOf)
    = some (some (some 230)) := by decide +kernel

theorem C06_example_stable : Stable optOps idCv exB (.wmap []) exIn :=
  ⟨⟨_, rfl⟩, ⟨_, rfl⟩, StoreOk.wm _ _ (by decide +kernel) (by decide +kernel)⟩

example : payloadOf optOps idCv exB (reloadN optOps idCv exB (.wmap []) 3 exIn)
    = payloadOf optOps idCv exB exIn := (C06_chain C06_example_laws C06_conv_laws_nonvacuous C06_example_stable 3).1

example : ∃ l, loadFrom optOps idCv exB (payloadOf optOps idCv exB exIn) (.wmap []) = some l ∧
    l.store = exIn.store := C06_load_store C06_conv_laws_nonvacuous exIn _ C06_example_stable.store_ok

/-- key order of `gel.meta` inside a body -/
def metaKeysOf {W : Type} : J W → List Str
  | .obj kv => match aget kGel kv with
    | some (.obj g) => match aget kMeta g with
      | some (.obj m) => keys m
      | _ => []
    | _ => []
  | _ => []

def exBadMeta : WriteIn (Option Int) := { exIn with graph := .obj [(kMeta, .str [109])] }

/-- Outside the stated domain — `graph.meta` truthy but not a dict — `write_snapshot` falls back to
a literal whose `meta` key order differs from what every later write produces: the *first* rewrite
is then not byte-identical (all later ones are, `C06_stable_after_reload`).  This is why `Stable`
asks for `canonW … = some _`. -/
theorem C06_fixpoint_needs_meta_dict :
    canonW optOps idCv exB (graphState optOps exBadMeta) = none ∧
    payloadOf optOps idCv exB (reload optOps idCv exB (.wmap []) exBadMeta)
      ≠ payloadOf optOps idCv exB exBadMeta := by
  refine ⟨rfl, fun h => ?_⟩
  have := congrArg metaKeysOf h
  revert this
  decide +kernel

end Examples

/-! ## "clamped to the configured bounds": what holds, and what does not -/

/- Full-strength reading, **false** of the code as documented (round-after-clamp, ε-prune to 0):
     ∀ w, InRange o b (sw o b w)
   — a bound with more than six decimals is overshot by its own rounding, and pruning writes 0.0
   even when 0.0 is outside the bounds.  Negation witnesses below; the provable part is
   `C06_weight_in_rounded_bounds_partial`. -/

/-- A written weight is either `0.0` (ε-pruned or nothing finite) or `round6` of a finite value
that lies within the bounds. -/
theorem C06_weight_in_rounded_bounds_partial {W : Type} {o : WOps W} {b : Bounds W} (L : WLaws o b)
    (w : W) : sw o b w = o.zero ∨ ∃ x, InRange o b x ∧ o.fin x = true ∧ sw o b w = o.round x := by
  by_cases hf : o.fin (pre o b w) = true
  · rw [sw_of_fin hf, prune]
    split
    · exact .inl rfl
    · exact .inr ⟨pre o b w, pre_inRange L w, hf, rfl⟩
  · exact .inl (sw_of_not_fin hf)

/-- witness 1: upper bound 1006 on a grid of 10 — the clamped value 1006 rounds to 1010 > 1006 -/
theorem C06_weight_can_overshoot_bound :
    ¬ InRange optOps ⟨some (-1000), some 1006, some 0⟩
        (sw optOps ⟨some (-1000), some 1006, some 0⟩ (some 2000)) := by unfold InRange; decide +kernel

/-- witness 2: bounds `[500, 1000]`, ε = 600: 520 is pruned to 0, which is below the lower bound -/
theorem C06_prune_can_leave_bounds :
    ¬ InRange optOps ⟨some 500, some 1000, some 600⟩
        (sw optOps ⟨some 500, some 1000, some 600⟩ (some 520)) := by unfold InRange; decide +kernel

example : ∃ x, InRange optOps ⟨some (-1000), some 1006, some 0⟩ x ∧
    sw optOps ⟨some (-1000), some 1006, some 0⟩ (some 2000) = optOps.round x :=
  ⟨some 1006, by unfold InRange; decide +kernel, by decide +kernel⟩

/-! ## writer → picker: the last write into a shared snapshot directory is the one a boot loads

`write_snapshot` replaces `state_<agent>.json`; the OS stamps the new file with the time of the write.  The harness
component `snap.lastwrite` checks the hypothesis on real file times (`rewrite_carries_a_newer_time`) and the conclusion
on the real loader (`latest_written_is_loaded`). -/

/-- a directory after `state_<agent>.json` was (re-)written at time `t`: the old entry of that name is gone -/
def writeAt (l : List Ent) (n : Str) (t : Int) : List Ent := l.filter (fun e => e.name != n) ++ [⟨n, t⟩]

/-- in ANY listing order: a `state_*.json` entry strictly newer than every other entry is the one picked, as long as
the directory holds no numbered `snap_*.json` -/
theorem C06_newest_state_is_picked {l : List Ent} {n : Str} {t : Int} (hm : (⟨n, t⟩ : Ent) ∈ l)
    (hj : endsWith n sDotJson = true) (hs : startsWith n sStatePfx = true)
    (hno : ∀ y ∈ l, endsWith y.name sDotJson = true → isNumbered y.name = false)
    (hnew : ∀ y ∈ l, y ≠ (⟨n, t⟩ : Ent) → y.mtime < t) : pickLatest l = some n := by
  obtain ⟨e, he, hp, _, hmax⟩ := C06_pick_precedence_state (x := ⟨n, t⟩) hm hj hs hno
  by_cases heq : e = (⟨n, t⟩ : Ent)
  · rw [hp, heq]
  · exact absurd (hmax ⟨n, t⟩ hm hj hs) (Int.not_le.2 (hnew e he heq))

/-- one write at a time later than everything in the directory is what the next boot picks -/
theorem C06_last_write_is_picked {l : List Ent} {n : Str} {t : Int}
    (hj : endsWith n sDotJson = true) (hs : startsWith n sStatePfx = true)
    (hno : ∀ y ∈ l, endsWith y.name sDotJson = true → isNumbered y.name = false)
    (hnew : ∀ y ∈ l, y.mtime < t) : pickLatest (writeAt l n t) = some n := by
  have mem : ∀ y ∈ writeAt l n t, y ∈ l ∨ y = ⟨n, t⟩ := fun y hy =>
    (List.mem_append.1 hy).imp (fun h => (List.mem_filter.1 h).1) List.mem_singleton.1
  refine C06_newest_state_is_picked (t := t) (List.mem_append_right _ List.mem_cons_self) hj hs
    (fun y hy hyj => ?_) (fun y hy hne => (mem y hy).elim (hnew y) (fun h => absurd h hne))
  rcases mem y hy with h | rfl
  · exact hno y h hyj
  · exact isNumbered_of_state hs

/-- `state_A.json`, `state_B.json` -/
def stA : Str := sStatePfx ++ [65] ++ sDotJson
def stB : Str := sStatePfx ++ [66] ++ sDotJson

/-- non-vacuity, and why the hypothesis on the times is needed: A written at 1, B at 2, A re-written at 3 — the boot
loads A; a writer that keeps the replaced file's times (A stays stamped 1) leaves the stale B "latest" -/
theorem C06_time_preserving_writer_loads_stale :
    pickLatest (writeAt [⟨stA, 1⟩, ⟨stB, 2⟩] stA 3) = some stA ∧
    pickLatest (writeAt [⟨stA, 1⟩, ⟨stB, 2⟩] stA 1) = some stB := by decide +kernel

example : pickLatest (writeAt [⟨stA, 1⟩, ⟨stB, 2⟩] stA 3) = some stA :=
  C06_last_write_is_picked (by decide +kernel) (by decide +kernel) (by decide +kernel) (by decide +kernel)

end Clem.Props
