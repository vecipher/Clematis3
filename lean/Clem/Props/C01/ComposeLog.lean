/-
# C01 (composition) — the log stream of a turn is a function of (state, input, config, now)

`Clem/Model/ComposeLog.lean` builds every record `run_turn` hands to `append_jsonl` from the composed turn
(`rawRecordsF`: file name + payload as a function of the MEASURED clock values) and applies
`normalize_for_identity`.  The harness compares `emitted` line by line — emission order, key order, value kinds,
floats by bits — with the files the real turn wrote.

* WHICH files are written, and in which order, never depends on the clock (`C01_compose_log_files_clock_free`).
* Under CI the five identity streams (t1, t2, t4, apply, turn) do not depend on the measured values at all — for one
  turn (`C01_compose_log_identity_clock_free`) and for whole histories (`C01_compose_log_history_clock_free`): the
  identity logs are a function of (world, config, printed constants, state, turn inputs, oracles) alone.
* Without CI nothing is normalised (`C01_compose_log_noci`).
* The turn record's rollup restates the stage records of the same turn; the apply record prints the version the next
  state carries (`C01_compose_log_rollup`, `C01_compose_log_apply_version`).
-/
import Clem.Proofs.Compose
import Clem.Model.ComposeLog

set_option linter.unusedSectionVars false

namespace Clem.Compose

open Clem.Py.JV

section AnyCarrier
variable {α : Type} [Clem.T1.Num α] [Clem.T2.Num α] [Clem.T3.PyOrd α] [Clem.Py.Num α] [Clem.Py.NumGel α]
variable (w : World α) (c : Cfg α) (env : LogEnv) (s : State α) (t : TurnIn α) (o : Oracles α)
variable (isZero : α → Bool)

/-- which files, in which order: the skeleton's file names, whatever was measured -/
theorem C01_compose_log_files_clock_free (k k' : Clock α) :
    (emitted isZero w c env s t o k).map (·.1) = (emitted isZero w c env s t o k').map (·.1) := by
  unfold emitted rawRecords
  simp [List.map_map, Function.comp_def]

theorem C01_compose_log_noci (k : Clock α) (h : env.ci = false) :
    emitted isZero w c env s t o k = rawRecords w c env s t o k := by
  unfold emitted
  rw [h]
  simp [normalizeForIdentity]

/-! ### payloads: what the normalisation leaves does not mention the clock -/

abbrev kMs : Str := k%"ms"
abbrev kNow : Str := k%"now"
abbrev kDur : Str := k%"durations_ms"

/-- under CI a record of `t1 / t2 / t4 / apply` loses `now` and has `ms` zeroed -/
theorem norm_stage (f : Str) (hid : identityLogs.contains f = true) (hturn : (f == fTurn) = false)
    (hrefl : (f == fRefl) = false) (kv : List (Str × J α)) :
    normalizeForIdentity true isZero f (.obj kv) = .obj (popKey kNow (zeroMs kv)) := by
  unfold normalizeForIdentity
  simp only [Bool.not_true, Bool.false_eq_true, if_false, hid, hturn, hrefl, if_true]

/-- … and a `turn` record has its durations zeroed and its scheduling context normalised as well -/
theorem norm_turn (kv : List (Str × J α)) :
    normalizeForIdentity true isZero fTurn (.obj kv) =
      .obj (normYield isZero (zeroDurations (popKey kNow (zeroMs kv)))) := by
  have h1 : (fTurn == fRefl) = false := by decide
  have h2 : identityLogs.contains fTurn = true := by decide
  unfold normalizeForIdentity
  simp only [Bool.not_true, Bool.false_eq_true, if_false, h1, h2, if_true, beq_iff_eq.mpr rfl]

theorem zeroMs_mid (A B : List (Str × J α)) (x : α) :
    zeroMs (A ++ (kMs, .num x) :: B) = zeroMs A ++ (kMs, .num (Clem.Py.Num.zero : α)) :: zeroMs B := by
  simp [zeroMs]

/-- a record of `t1 / t2 / t4 / apply`: everything but the measured `ms` in front of and behind it -/
theorem norm_ms_free (f : Str) (hid : identityLogs.contains f = true) (hturn : (f == fTurn) = false)
    (hrefl : (f == fRefl) = false) (A B : List (Str × J α)) (x y : α) :
    normalizeForIdentity true isZero f (.obj (A ++ (kMs, .num x) :: B)) =
    normalizeForIdentity true isZero f (.obj (A ++ (kMs, .num y) :: B)) := by
  rw [norm_stage isZero f hid hturn hrefl, norm_stage isZero f hid hturn hrefl, zeroMs_mid, zeroMs_mid]

theorem zeroMs_dur (A B : List (Str × J α)) (d : J α) :
    zeroMs (A ++ (kDur, d) :: B) = zeroMs A ++ (kDur, d) :: zeroMs B := by
  simp [zeroMs]

theorem popNow_dur (A B : List (Str × J α)) (d : J α) :
    popKey kNow (A ++ (kDur, d) :: B) = popKey kNow A ++ (kDur, d) :: popKey kNow B := by
  simp [popKey]

theorem zeroDur_mid (A B : List (Str × J α)) (d : List (Str × J α)) :
    zeroDurations (A ++ (kDur, .obj d) :: B) =
      zeroDurations A ++ (kDur, .obj (d.map (fun q => (q.1, .num (Clem.Py.Num.zero : α))))) :: zeroDurations B := by
  simp [zeroDurations]

/-- a turn record: the durations are zeroed key by key — only their KEYS survive -/
theorem norm_turn_dur_free (A B : List (Str × J α)) (d d' : List (Str × J α)) (hk : d.map (·.1) = d'.map (·.1)) :
    normalizeForIdentity true isZero fTurn (.obj (A ++ (kDur, .obj d) :: B)) =
    normalizeForIdentity true isZero fTurn (.obj (A ++ (kDur, .obj d') :: B)) := by
  have hz : d.map (fun q => (q.1, J.num (Clem.Py.Num.zero : α))) = d'.map (fun q => (q.1, J.num (Clem.Py.Num.zero : α))) := by
    have e : ∀ l : List (Str × J α), l.map (fun q => (q.1, J.num (Clem.Py.Num.zero : α))) =
        (l.map (·.1)).map (fun x => (x, J.num (Clem.Py.Num.zero : α))) := by
      intro l; simp [List.map_map, Function.comp_def]
    rw [e d, e d', hk]
  rw [norm_turn, norm_turn, zeroMs_dur, zeroMs_dur, popNow_dur, popNow_dur, zeroDur_mid, zeroDur_mid, hz]

theorem t1_norm_free (k k' : Clock α) :
    normalizeForIdentity true isZero fT1 (t1Raw w c env s t k) =
    normalizeForIdentity true isZero fT1 (t1Raw w c env s t k') := by
  unfold t1Raw
  simp only [norm_stage isZero fT1 (by decide) (by decide) (by decide)]
  -- `zeroMs` overwrites the one entry that holds a measured value: both sides compute to the same record
  rfl

theorem t2_norm_free (k k' : Clock α) :
    normalizeForIdentity true isZero fT2 (t2Raw w c env s t o k) =
    normalizeForIdentity true isZero fT2 (t2Raw w c env s t o k') := by
  unfold t2Raw
  simp only [norm_stage isZero fT2 (by decide) (by decide) (by decide)]
  -- unlike the other stage records this one is an append of lists that do not compute; `zeroMs` is a `map`
  simp only [zeroMs, List.map_append]
  rfl

theorem t4_norm_free (k k' : Clock α) (r : Clem.T4.Result α) :
    normalizeForIdentity true isZero fT4 (t4Raw w c env t k r) =
    normalizeForIdentity true isZero fT4 (t4Raw w c env t k' r) := by
  unfold t4Raw
  simp only [norm_stage isZero fT4 (by decide) (by decide) (by decide)]
  rfl

theorem apply_norm_free (k k' : Clock α) (a : Clem.Apply.Out) :
    normalizeForIdentity true isZero fApply (applyRaw w env t k a) =
    normalizeForIdentity true isZero fApply (applyRaw w env t k' a) := by
  unfold applyRaw
  simp only [norm_stage isZero fApply (by decide) (by decide) (by decide)]
  rfl

theorem turnFinal_norm_free (k k' : Clock α) :
    normalizeForIdentity true isZero fTurn (turnFinalRaw w c env s t o k) =
    normalizeForIdentity true isZero fTurn (turnFinalRaw w c env s t o k') := by
  unfold turnFinalRaw durations
  simp only [List.append_assoc, List.cons_append, List.nil_append]
  exact norm_turn_dur_free isZero _ _ _ _ rfl

theorem turnYield_norm_free (k k' : Clock α) (st : Clem.Sched.Stage) (r : Clem.Sched.YReason) :
    normalizeForIdentity true isZero fTurn (turnYieldRaw w c env s t o k st r) =
    normalizeForIdentity true isZero fTurn (turnYieldRaw w c env s t o k' st r) := by
  unfold turnYieldRaw durations
  simp only [List.append_assoc, List.cons_append, List.nil_append]
  exact norm_turn_dur_free isZero _ _ _ _ rfl

/-! ### the stream -/

/-- every identity record of the list normalises to the same line for the two clocks -/
def ClockFree (k k' : Clock α) (l : List (RecF α)) : Prop :=
  ∀ p ∈ l, identityLogs.contains p.1 = true →
    normalizeForIdentity true isZero p.1 (p.2 k) = normalizeForIdentity true isZero p.1 (p.2 k')

variable {isZero}

theorem cf_append {k k' : Clock α} {a b : List (RecF α)} (ha : ClockFree isZero k k' a) (hb : ClockFree isZero k k' b) :
    ClockFree isZero k k' (a ++ b) := by
  intro p hp
  rcases List.mem_append.1 hp with h | h
  · exact ha p h
  · exact hb p h

theorem cf_nil {k k' : Clock α} : ClockFree isZero k k' ([] : List (RecF α)) := by intro p hp; cases hp

theorem cf_one {k k' : Clock α} (f : Str) (g : Clock α → J α)
    (h : identityLogs.contains f = true →
      normalizeForIdentity true isZero f (g k) = normalizeForIdentity true isZero f (g k')) :
    ClockFree isZero k k' [(f, g)] := by
  intro p hp hid
  simp only [List.mem_singleton] at hp
  subst hp
  exact h hid

theorem cf_cons {k k' : Clock α} (f : Str) (g : Clock α → J α) (l : List (RecF α))
    (h : identityLogs.contains f = true →
      normalizeForIdentity true isZero f (g k) = normalizeForIdentity true isZero f (g k'))
    (hl : ClockFree isZero k k' l) : ClockFree isZero k k' ((f, g) :: l) :=
  cf_append (a := [(f, g)]) (cf_one f g h) hl

theorem cf_opt {k k' : Clock α} (f : Str) (x : Option (Clock α → J α))
    (h : ∀ g, x = some g → identityLogs.contains f = true →
      normalizeForIdentity true isZero f (g k) = normalizeForIdentity true isZero f (g k')) :
    ClockFree isZero k k' (optRecF f x) := by
  cases x with
  | none => exact cf_nil
  | some g => exact cf_one f g (h g rfl)

theorem cf_yield (k k' : Clock α) (st : Clem.Sched.Stage) (r : Clem.Sched.YReason) :
    ClockFree isZero k k' (yieldRecsF w c env s t o st r) := by
  unfold yieldRecsF
  apply cf_append
  · split
    · exact cf_one _ _ (fun h => absurd h (by decide))
    · exact cf_nil
  · exact cf_one _ _ (fun _ => turnYield_norm_free w c env s t o isZero k k' st r)

theorem cf_optMap {β : Type} {k k' : Clock α} (f : Str) (x : Option β) (g : β → Clock α → J α)
    (h : ∀ b, normalizeForIdentity true isZero f (g b k) = normalizeForIdentity true isZero f (g b k')) :
    ClockFree isZero k k' (optRecF f (x.map g)) := by
  cases x with
  | none => exact cf_nil
  | some b => exact cf_one _ _ (fun _ => h b)

/-- every identity record of the turn's skeleton normalises to the same line whatever was measured -/
theorem cf_turn (k k' : Clock α) : ClockFree isZero k k' (rawRecordsF w c env s t o) := by
  -- a record of a file that is no identity log is free whatever it holds
  have other : ∀ (f : Str) {g : Clock α → J α}, identityLogs.contains f = false → identityLogs.contains f = true →
      normalizeForIdentity true isZero f (g k) = normalizeForIdentity true isZero f (g k') :=
    fun _ _ hf h => absurd (hf.symm.trans h) Bool.false_ne_true
  have hGel : ∀ x : Option (Clock α → J α), ClockFree isZero k k' (optRecF fGel x) :=
    fun x => cf_opt _ _ (fun _ _ => other fGel (by decide))
  unfold rawRecordsF
  extract_lets r yAt pT1 pT2 pObs pT3 pT4 pAp
  -- where the turn yields is irrelevant: every prefix of the skeleton is free, and so are the records of a yield
  clear_value yAt
  have h1 : ClockFree isZero k k' pT1 := cf_one _ _ (fun _ => t1_norm_free w c env s t isZero k k')
  have h2 : ClockFree isZero k k' pT2 := cf_append h1 (cf_one _ _ (fun _ => t2_norm_free w c env s t o isZero k k'))
  have h3 : ClockFree isZero k k' pObs := cf_append h2 (hGel _)
  have h4 : ClockFree isZero k k' pT3 := by
    refine cf_append h3 ?_
    split
    · exact cf_cons _ _ _ (other fT3 (by decide)) (cf_cons _ _ _ (other fT3Plan (by decide)) (cf_one _ _ (other fT3Dlg (by decide))))
    · exact cf_nil
  have h5 : ClockFree isZero k k' pT4 := cf_append h4 (cf_optMap _ _ _ (t4_norm_free w c env t isZero k k'))
  have h6 : ClockFree isZero k k' pAp :=
    cf_append (cf_append (cf_append h5 (hGel _)) (hGel _)) (cf_optMap _ _ _ (apply_norm_free w env t isZero k k'))
  have hy := fun st why => cf_yield w c env s t o (isZero := isZero) k k' st why
  split
  · exact cf_append h1 (hy _ _)
  split
  · exact cf_append h2 (hy _ _)
  split
  · exact cf_append h3 (hy _ _)
  split
  · exact h5
  split
  · exact cf_append h5 (hy _ _)
  split
  · exact cf_append h6 (hy _ _)
  exact cf_append (cf_append h6 (cf_opt _ _ (fun _ _ => other fRefl (by decide))))
    (cf_cons _ _ _ (fun _ => rfl) (cf_one _ _ (fun _ => turnFinal_norm_free w c env s t o isZero k k')))

variable (isZero)

/-- **the identity logs of a turn do not depend on the wall clock.**  Under CI (`CI=true`) the lines the turn appends
to t1 / t2 / t4 / apply / turn.jsonl are the same for every value of every `perf_counter` difference: they are a
function of (world, config, printed constants incl. `ctx.now`, state, turn input, oracles). -/
theorem C01_compose_log_identity_clock_free (k k' : Clock α) (hci : env.ci = true) :
    identityStream isZero w c env s t o k = identityStream isZero w c env s t o k' := by
  unfold identityStream emitted rawRecords
  rw [hci]
  have h := cf_turn w c env s t o (isZero := isZero) k k'
  generalize rawRecordsF w c env s t o = l at h
  induction l with
  | nil => rfl
  | cons p r ih =>
    have hr : ClockFree isZero k k' r := fun q hq => h q (List.mem_cons_of_mem _ hq)
    have hp := h p (by simp)
    simp only [List.map_cons, List.filter_cons]
    rw [ih hr]
    by_cases hid : identityLogs.contains p.1 = true
    · simp only [hid, if_true]; rw [hp hid]
    · have hf : identityLogs.contains p.1 = false := by simpa using hid
      simp only [hf]
      rfl

/-- the identity lines of a list of emitted records -/
def identityOf (l : List (Str × J α)) : List (Str × J α) := l.filter (fun p => identityLogs.contains p.1)

/-- **the identity logs of a HISTORY do not depend on the wall clock**: two executions of the same turn list from the
same state (several agents allowed) that measured different times throughout append the same lines to
t1 / t2 / t4 / apply / turn.jsonl, in the same order -/
theorem C01_compose_log_history_clock_free (hci : env.ci = true) (ts : List (TurnIn α × Oracles α)) :
    ∀ (s : State α) (ks ks' : List (Clock α)), ks.length = ts.length → ks'.length = ts.length →
      identityOf (histLog isZero w c env s (ts.zip ks)) = identityOf (histLog isZero w c env s (ts.zip ks')) := by
  induction ts with
  | nil => intro s ks ks' _ _; rfl
  | cons t r ih =>
    intro s ks ks' h h'
    cases ks with
    | nil => cases h
    | cons k kr =>
      cases ks' with
      | nil => cases h'
      | cons k' kr' =>
        simp only [List.zip_cons_cons, histLog, identityOf, List.filter_append]
        have e := C01_compose_log_identity_clock_free (wFor w t.1) c env s t.1 t.2 isZero k k' hci
        unfold identityStream at e
        rw [e]
        have := ih (runTurn (wFor w t.1) c s t.1 t.2).state kr kr' (by simpa using h) (by simpa using h')
        unfold identityOf at this
        rw [this]

/-- **the rollup restates the stage records**: the `t1` / `t2` / `t4` blocks of the final turn record carry the very
values the t1 / t2 / t4 records of the same turn carry -/
theorem C01_compose_log_rollup (k : Clock α) :
    fieldOf (k%"t1") (turnFinalRaw w c env s t o k) = some (t1Roll w c s t) ∧
    fieldOf (k%"t2") (turnFinalRaw w c env s t o k) = some (t2Roll w c s t o) ∧
    fieldOf (k%"t4") (turnFinalRaw w c env s t o k) = some (t4Roll w c s t o) ∧
    fieldOf (k%"pops") (t1Roll w c s t) = fieldOf (k%"pops") (t1Raw w c env s t k) ∧
    fieldOf (k%"iters") (t1Roll w c s t) = fieldOf (k%"iters") (t1Raw w c env s t k) ∧
    fieldOf (k%"graphs_touched") (t1Roll w c s t) = fieldOf (k%"graphs_touched") (t1Raw w c env s t k) ∧
    fieldOf (k%"k_returned") (t2Roll w c s t o) = fieldOf (k%"k_returned") (t2Raw w c env s t o k) ∧
    fieldOf (k%"k_used") (t2Roll w c s t o) = fieldOf (k%"k_used") (t2Raw w c env s t o k) := by
  refine ⟨rfl, rfl, rfl, rfl, rfl, rfl, rfl, rfl⟩

/-- the apply record prints the version the next state carries, and names the snapshot file iff a body was written -/
theorem C01_compose_log_apply_version (k : Clock α) (a : Clem.Apply.Out)
    (ha : (runTurn w c s t o).apply = some a) :
    fieldOf (k%"version_etag") (applyRaw w env t k a) = some (.str (decStr a.version)) ∧
    (nextState w c s t o).ver = .num a.version ∧
    (fieldOf (k%"snapshot") (applyRaw w env t k a) = some (.str (snapName w)) ↔ (runTurn w c s t o).snapBody.isSome = true) := by
  obtain ⟨hc, rfl⟩ := (apply_eq_some w c s t o).1 ha
  refine ⟨rfl, by rw [nextState_ver, if_pos hc], ?_⟩
  have hf : fieldOf (k%"snapshot") (applyRaw w env t k (applyOf w c s t o))
      = some (if (applyOf w c s t o).snap.isSome then .str (snapName w) else .null) := rfl
  have hb : (runTurn w c s t o).snapBody = snapBody w c s t o := rfl
  rw [hf, hb, snapBody, hc, Bool.true_and]
  cases (applyOf w c s t o).snap with
  | none => exact ⟨fun h => (nomatch h), fun h => (nomatch h)⟩
  | some x => exact ⟨fun _ => rfl, fun _ => rfl⟩

end AnyCarrier

end Clem.Compose
