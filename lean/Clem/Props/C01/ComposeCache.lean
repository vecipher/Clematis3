/-
# C01 (composition) — version discipline and the caches keyed on it

`version_etag` is bumped by exactly one on every turn that reaches Apply — whatever the approved list, whatever the
store answered — and by nothing else; a turn that changed the store did reach Apply, so it bumped the version.  The
orchestrator's turn-level T2 cache is keyed by (version_etag, input text, ctx digest): its keys never run ahead of the current
version (`VerBound`, an invariant of every history), hence after a turn that reached Apply NO entry of the cache
carries the new version — the next lookup, whatever its text, misses and recomputes on the changed graph
(`C01_compose_cache_miss_after_commit`).  With `cache_bust_mode = on-apply` the cache is empty as well.
-/
import Clem.Proofs.Compose

set_option linter.unusedSectionVars false

namespace Clem.Compose

section AnyCarrier
variable {α : Type} [Clem.T1.Num α] [Clem.T2.Num α] [Clem.T3.PyOrd α] [Clem.Py.Num α] [Clem.Py.NumGel α]
variable (w : World α) (c : Cfg α)

/-- every key of the orchestrator cache carries a version `≤ v` -/
def KeysLe (v : Int) (l : List (OrchKey α × Clem.T2.Out α)) : Prop :=
  ∀ e ∈ l, ∃ u, e.1.1.1 = .num u ∧ u ≤ v

/-- the version is a number and no cache key runs ahead of it -/
def VerBound (s : State α) : Prop := ∃ v, s.ver = .num v ∧ KeysLe v s.orch

theorem keysLe_mono {v v' : Int} {l : List (OrchKey α × Clem.T2.Out α)} (h : KeysLe v l) (hv : v ≤ v') :
    KeysLe v' l := by
  intro e he
  obtain ⟨u, hu, hle⟩ := h e he
  exact ⟨u, hu, by omega⟩

/-- **the version moves iff the turn reaches Apply, by exactly one**; a turn that changed the store's weights reached
Apply -/
theorem C01_compose_version_step (s : State α) (t : TurnIn α) (o : Oracles α) (v : Int) (h : s.ver = .num v) :
    (nextState w c s t o).ver = .num (if commits w c s t o then v + 1 else v) ∧
    ((nextState w c s t o).w ≠ s.w → commits w c s t o = true) ∧
    ((runTurn w c s t o).storeCalls ≠ [] → commits w c s t o = true) := by
  -- a turn that does not commit leaves the weights alone and hands the store nothing
  refine ⟨?_, fun hne => Decidable.by_contra fun hc => hne ?_, fun hne => Decidable.by_contra fun hc => hne ?_⟩
  · rw [nextState_ver, applyOf_version, h]
    split <;> rfl
  · rw [nextState_w, if_neg hc]
  · rw [runTurn_storeCalls, if_neg hc]

/-- after any turn the cache's keys are bounded by the version the turn STARTED with -/
theorem orchNext_keysLe (s : State α) (t : TurnIn α) (o : Oracles α) (v : Int) (hv : s.ver = .num v)
    (hk : KeysLe v s.orch) : KeysLe v (nextState w c s t o).orch := by
  intro e he
  rw [nextState_orch] at he
  rcases mem_orchNext w c s t o he with h | h
  · exact hk e h
  · exact ⟨v, by rw [h]; exact hv, le_refl _⟩

theorem nextState_verBound (s : State α) (t : TurnIn α) (o : Oracles α) (h : VerBound s) :
    VerBound (nextState w c s t o) := by
  obtain ⟨v, hv, hk⟩ := h
  refine ⟨if commits w c s t o then v + 1 else v, (C01_compose_version_step w c s t o v hv).1, ?_⟩
  apply keysLe_mono (orchNext_keysLe w c s t o v hv hk)
  split <;> omega

/-- `VerBound` holds along every history that starts with it (e.g. from any state with a numeric version and an
empty cache) -/
theorem C01_compose_verBound_history (ts : List (TurnIn α × Oracles α)) :
    ∀ s : State α, VerBound s → VerBound (runTurns w c s ts).state :=
  fun _ h => (runTurns_inv w c (nextState_verBound w c) h ts).1

theorem verBound_fresh (s : State α) (v : Int) (hv : s.ver = .num v) (h0 : s.orch = []) : VerBound s :=
  ⟨v, hv, by rw [h0]; intro e he; cases he⟩

/-- **every cache keyed on the version misses after a turn that reached Apply** — in particular after every turn
that changed the graph store.  Whatever the next turn's text, agent or oracles: its T2 lookup in the orchestrator's
cache is a miss (the stage recomputes on the state the apply left), because no key carries the bumped version. -/
theorem C01_compose_cache_miss_after_commit (s : State α) (t : TurnIn α) (o : Oracles α) (h : VerBound s)
    (hc : commits w c s t o = true) (w' : World α) (t' : TurnIn α) (o' : Oracles α) :
    (t2Stage w' c (nextState w c s t o) t' o').hit = false ∧
    (runTurn w' c (nextState w c s t o) t' o').orchHit = false := by
  obtain ⟨v, hv, hk⟩ := h
  have hver : (nextState w c s t o).ver = .num (v + 1) := by
    rw [nextState_ver, if_pos hc, applyOf_version, hv]; rfl
  have hmiss : (nextState w c s t o).orch.find?
      (fun e => okeyEq e.1 (orchKey w' c (nextState w c s t o) t')) = none := by
    rw [List.find?_eq_none]
    intro e he heq
    obtain ⟨u, hu, hle⟩ := orchNext_keysLe w c s t o v hv hk e he
    have h2 : e.1.1.1 = (nextState w c s t o).ver := congrArg Prod.fst (okeyEq_fields heq).1
    rw [hu, hver] at h2
    injection h2 with h3
    omega
  have hhit : (t2Stage w' c (nextState w c s t o) t' o').hit = false := by
    by_cases hon : c.orchCacheOn = true
    · exact (t2Stage_miss w' c _ t' o' hon hmiss).2.1
    · exact (t2Stage_off w' c _ t' o' (Bool.eq_false_iff.2 hon)).2.1
  refine ⟨hhit, ?_⟩
  show (reach w' c (nextState w c s t o) t' o' 0 && (t2Stage w' c (nextState w c s t o) t' o').hit) = false
  rw [hhit, Bool.and_false]

/-- with `cache_bust_mode = on-apply` the cache is also EMPTY after such a turn -/
theorem C01_compose_cache_bust (s : State α) (t : TurnIn α) (o : Oracles α)
    (hc : commits w c s t o = true) (hb : c.bust = true) (ho : c.orchCacheOn = true) :
    (nextState w c s t o).orch = [] := by
  rw [nextState_orch]
  unfold orchNext
  have hr : reach w c s t o 0 = true :=
    decide_eq_true (Nat.lt_of_le_of_lt (Nat.zero_le 3) (of_decide_eq_true (Bool.and_eq_true_iff.1 hc).2))
  rw [hr, hc, hb, ho]
  rfl

end AnyCarrier

end Clem.Compose
