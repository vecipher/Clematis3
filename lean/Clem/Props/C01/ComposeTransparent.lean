/-
# C01 × C05 (composition) — the orchestrator's turn-level T2 cache is TRANSPARENT along a history

`t2Stage` serves a cached `Clem.T2.Out` when the turn's key `(version, text, agent, T1 delta ids, index version,
GEL edges)` digests equal to a stored one (`okeyEq`).  This file proves that what is served IS what the stage would
compute now (hit = fresh), for every turn of every history that starts with an empty cache — no bound on the length.

What makes a stored value still right, component by component of the key:
* text + T1 delta ids  ⇒ the same query text (`qOf` is `queryText text (changedLabels graphs ids)`: the world is fixed);
* index version = `mem.length`, and the memory index is APPEND-ONLY along a history: the entry was computed at a
  `mem'` that is a prefix of the current `mem` (`EntryGood`), equal length ⇒ equal list;
* GEL edges: only read by the hybrid reranker.  With `t2.hybrid.enabled = false` the result does not depend on the
  store (`t2Call_hyb_off`).  With hybrid ON the key holds the edges up to `edgesSame` (set-like equality, weights by
  `NumGel.eq`); invariance of `Clem.T2.hybrid` under that relation is NOT proved here — the theorems are `_partial`
  (hypothesis `c.hyb.enabled = false`);
* the similarity ORACLES are turn inputs of the model (in the code: the embedding adapter and the index, functions of
  query text and index contents): the hypothesis `Coherent` says that a later turn with the same input text is given
  oracles that agree with the earlier turn's on what that earlier call read (`oView`: the entry of the query it looked
  up, `now`, the descriptions of the memory entries that existed).  It is needed: `C01_compose_orch_cache_needs_coherence`.

LIFT (`C01_compose_orch_cache_off_history_partial`, `…_on_eq_off_partial`): the run with the cache ON and the run with it OFF
stay in step over the whole history — same states up to the cache, same `visible` outputs.  Two places read the cache
FLAGS and need an argument: the reflection tail's fallback snippets (`arts = []` after a hit; irrelevant because the
fallback is only consulted when the retrieved texts are all empty: `Clem.Refl.gather_arts_irrelevant`) and the apply
record's invalidation count (not part of `visible`; version / snapshot / applied do not read the cache manager).
-/
import Clem.Props.C01.Compose

set_option linter.unusedSectionVars false

namespace Clem.Compose

section AnyCarrier
variable {α : Type} [Clem.T1.Num α] [Clem.T2.Num α] [Clem.T3.PyOrd α] [Clem.Py.Num α] [Clem.Py.NumGel α]
variable (w : World α) (c : Cfg α)

/-! ## what a T2 call reads -/

/-- what one `t2_semantic` call on the query text `q`, with `n` written memory entries, reads from the turn's oracles:
the entry of `q`, `now`, the descriptions of the first `n` written entries -/
def oView (o : Oracles α) (q : Str) (n : Nat) : Option (QOracle α) × Int × List (Clem.T2.Ep α) :=
  (lookupQ o q, o.nowUs, o.memEps.take n)

theorem zipWith_memEp_take (mem : List Clem.Refl.Written) (es : List (Clem.T2.Ep α)) :
    List.zipWith memEp mem es = List.zipWith memEp mem (es.take mem.length) := by
  induction mem generalizing es with
  | nil => simp
  | cons m ms ih =>
    cases es with
    | nil => simp
    | cons e es =>
      simp only [List.length_cons, List.take_succ_cons, List.zipWith_cons_cons]
      rw [← ih es]

/-- a T2 call is a function of the oracle VIEW -/
theorem t2Call_congr_oracle (o o' : Oracles α) (g : Clem.Gel.State α) (q : Str) (mem : List Clem.Refl.Written)
    (h : oView o q mem.length = oView o' q mem.length) : t2Call w c o g q mem = t2Call w c o' g q mem := by
  unfold oView at h
  have h1 : lookupQ o q = lookupQ o' q := congrArg (·.1) h
  have h2 : o.nowUs = o'.nowUs := congrArg (·.2.1) h
  have h3 : o.memEps.take mem.length = o'.memEps.take mem.length := congrArg (·.2.2) h
  have he : epsAt w mem o = epsAt w mem o' := by
    unfold epsAt
    rw [zipWith_memEp_take mem o.memEps, zipWith_memEp_take mem o'.memEps, h3]
  unfold t2Call
  rw [h1, he]
  unfold t2Cfg
  rw [h2]

/-- hybrid reranking off: the call does not read the GEL store -/
theorem t2Call_hyb_off (hh : c.hyb.enabled = false) (o : Oracles α) (g g' : Clem.Gel.State α) (q : Str)
    (mem : List Clem.Refl.Written) : t2Call w c o g q mem = t2Call w c o g' q mem := by
  -- the quality step consults its hybrid configuration only when that is enabled
  have hq (qo : QOracle α) (r : List (Clem.T2.Ep α)) :
      Clem.T2.applyQuality (hybOf c g) (qualOf c qo) r = Clem.T2.applyQuality (hybOf c g') (qualOf c qo) r := by
    unfold Clem.T2.applyQuality
    rw [show (hybOf c g).enabled = false from hh, show (hybOf c g').enabled = false from hh,
      if_neg Bool.false_ne_true, if_neg Bool.false_ne_true]
  unfold t2Call Clem.T2.t2
  simp only [hq]

/-! ## the invariant -/

/-- the query text a key stands for (text + the labels of the T1 delta ids it digests) -/
def keyQ (k : OrchKey α) : Str := queryText k.1.2 (changedLabels w.graphs k.2.ids)

theorem keyQ_orchKey (s : State α) (t : TurnIn α) : keyQ w (orchKey w c s t) = qOf w c s t := rfl

/-- a cached entry is the fresh result of SOME earlier call: on the query text of its key, at a memory index `mem'` that
is a prefix of the current one and whose length the key records, under oracles `o'` that every remaining turn with the
key's text agrees with (on what that call read) -/
def EntryGood (memNow : List Clem.Refl.Written) (future : List (TurnIn α × Oracles α))
    (e : OrchKey α × Clem.T2.Out α) : Prop :=
  ∃ (o' : Oracles α) (g' : Clem.Gel.State α) (mem' : List Clem.Refl.Written),
    e.2 = (t2Call w c o' g' (keyQ w e.1) mem').getD (emptyT2 c) ∧
    mem' <+: memNow ∧ e.1.2.indexVer = mem'.length ∧
    ∀ p ∈ future, p.1.text = e.1.1.2 → oView p.2 (keyQ w e.1) mem'.length = oView o' (keyQ w e.1) mem'.length

/-- **the invariant**: every entry of the orchestrator's cache is good w.r.t. the turns still to come -/
def OrchGood (s : State α) (future : List (TurnIn α × Oracles α)) : Prop :=
  ∀ e ∈ s.orch, EntryGood w c s.mem future e

/-- **oracle coherence of a history** (from the state it starts in): a later turn with the same input text is given
oracles that agree with the earlier turn's on what the earlier T2 call read -/
def Coherent : State α → List (TurnIn α × Oracles α) → Prop
  | _, [] => True
  | s, p :: ps =>
    (∀ p' ∈ ps, p'.1.text = p.1.text →
      oView p'.2 (qOf w c s p.1) s.mem.length = oView p.2 (qOf w c s p.1) s.mem.length) ∧
    Coherent (nextState w c s p.1 p.2) ps

theorem entryGood_mono {m m' : List Clem.Refl.Written} {f f' : List (TurnIn α × Oracles α)}
    {e : OrchKey α × Clem.T2.Out α} (h : EntryGood w c m f e) (hm : m <+: m') (hf : ∀ p ∈ f', p ∈ f) :
    EntryGood w c m' f' e := by
  obtain ⟨o', g', mem', hv, hp, hl, hc⟩ := h
  exact ⟨o', g', mem', hv, hp.trans hm, hl, fun p hp' => hc p (hf p hp')⟩

theorem orchGood_empty (s : State α) (h : s.orch = []) (f : List (TurnIn α × Oracles α)) : OrchGood w c s f := by
  intro e he; rw [h] at he; cases he

/-- the entry a miss stores is good for the rest of a coherent history -/
theorem entryGood_fresh (s : State α) (p : TurnIn α × Oracles α) (ps : List (TurnIn α × Oracles α))
    (hc : Coherent w c s (p :: ps)) :
    EntryGood w c s.mem ps
      (orchKey w c s p.1, (t2Call w c p.2 s.gel (qOf w c s p.1) s.mem).getD (emptyT2 c)) :=
  ⟨p.2, s.gel, s.mem, rfl, List.prefix_refl _, rfl, hc.1⟩

/-- **hit = fresh** (one state, hybrid reranking off): an entry whose key digests equal to the turn's key holds exactly what the stage
computes now, on this state, with this turn's oracles -/
theorem orchGood_hit_fresh (hh : c.hyb.enabled = false) (s : State α) (p : TurnIn α × Oracles α)
    (ps : List (TurnIn α × Oracles α)) (hg : OrchGood w c s (p :: ps)) (e : OrchKey α × Clem.T2.Out α)
    (he : e ∈ s.orch) (hk : okeyEq e.1 (orchKey w c s p.1) = true) :
    e.2 = (t2Call w c p.2 s.gel (qOf w c s p.1) s.mem).getD (emptyT2 c) := by
  obtain ⟨o', g', mem', hv, hp, hl, hc⟩ := hg e he
  obtain ⟨h1, _, h3, h4⟩ := okeyEq_fields hk
  have htext : e.1.1.2 = p.1.text := by rw [h1]; rfl
  have hq : keyQ w e.1 = qOf w c s p.1 := by
    unfold keyQ
    rw [htext, h3]
    rfl
  have hmem : mem' = s.mem := by
    apply hp.eq_of_length
    rw [← hl, h4]
    rfl
  rw [hv, hq, hmem]
  have hv' := hc p (List.mem_cons_self) htext.symm
  rw [hq, hmem] at hv'
  rw [← t2Call_congr_oracle w c p.2 o' g' (qOf w c s p.1) s.mem hv', t2Call_hyb_off w c hh p.2 g' s.gel]

/-- the cache after the T2 section of a turn is good for the rest of the history -/
theorem t2Stage_orchGood (s : State α) (p : TurnIn α × Oracles α) (ps : List (TurnIn α × Oracles α))
    (hg : OrchGood w c s (p :: ps)) (hc : Coherent w c s (p :: ps)) :
    ∀ e ∈ (t2Stage w c s p.1 p.2).orch, EntryGood w c s.mem ps e := by
  have hold : ∀ e ∈ s.orch, EntryGood w c s.mem ps e := fun e he =>
    entryGood_mono w c (hg e he) (List.prefix_refl _) (fun q hq => List.mem_cons_of_mem _ hq)
  rcases t2Stage_cases w c s p.1 p.2 with ⟨_, _, _, _, _, h⟩ | ⟨_, _, h | h⟩ <;> rw [h]
  · exact hold
  · exact hold
  · intro e he
    rcases List.mem_append.1 he with h | h
    · exact hold e h
    · exact List.mem_singleton.1 h ▸ entryGood_fresh w c s p ps hc

/-- **the invariant is preserved by a turn** of a coherent history -/
theorem nextState_orchGood (s : State α) (p : TurnIn α × Oracles α) (ps : List (TurnIn α × Oracles α))
    (hg : OrchGood w c s (p :: ps)) (hc : Coherent w c s (p :: ps)) :
    OrchGood w c (nextState w c s p.1 p.2) ps := by
  have hm : s.mem <+: (nextState w c s p.1 p.2).mem := by
    rw [nextState_mem]; exact List.prefix_append _ _
  intro e he
  rw [nextState_orch] at he
  rcases mem_orchNext w c s p.1 p.2 he with h | h
  · exact entryGood_mono w c (hg e h) hm (fun q hq => List.mem_cons_of_mem _ hq)
  · exact h ▸ entryGood_mono w c (entryGood_fresh w c s p ps hc) hm (fun q hq => hq)

/-- **the invariant holds along every coherent history** (induction over the turn list, no bound): after any prefix,
the state is good — and coherent — for the remaining turns -/
theorem C01_compose_orchGood_history (ts₁ : List (TurnIn α × Oracles α)) :
    ∀ (s : State α) (ts₂ : List (TurnIn α × Oracles α)), OrchGood w c s (ts₁ ++ ts₂) → Coherent w c s (ts₁ ++ ts₂) →
      OrchGood w c (runTurns w c s ts₁).state ts₂ ∧ Coherent w c (runTurns w c s ts₁).state ts₂ := by
  induction ts₁ with
  | nil => intro s ts₂ hg hc; exact ⟨hg, hc⟩
  | cons p r ih =>
    intro s ts₂ hg hc
    rw [runTurns_cons]
    exact ih _ ts₂ (by rw [runTurn_state]; exact nextState_orchGood w c s p (r ++ ts₂) hg hc)
      (by rw [runTurn_state]; exact hc.2)

/-! ## transparency -/

/-- the T2 stage result with the orchestrator's cache switched OFF is the fresh call -/
theorem t2Of_cache_off (s : State α) (t : TurnIn α) (o : Oracles α) :
    t2Of w { c with orchCacheOn := false } s t o = (t2Call w c o s.gel (qOf w c s t) s.mem).getD (emptyT2 c) := rfl

/-- one turn on a good state (hybrid reranking off): what the rest of the turn sees is the fresh result, hit or miss, cache on or off -/
theorem t2Of_transparent (hh : c.hyb.enabled = false) (s : State α) (p : TurnIn α × Oracles α)
    (ps : List (TurnIn α × Oracles α)) (hg : OrchGood w c s (p :: ps)) :
    t2Of w c s p.1 p.2 = (t2Call w c p.2 s.gel (qOf w c s p.1) s.mem).getD (emptyT2 c) := by
  unfold t2Of
  rcases t2Stage_cases w c s p.1 p.2 with ⟨e, he, hk, h, _⟩ | ⟨h, _⟩ <;> rw [h]
  exact orchGood_hit_fresh w c hh s p ps hg e he hk

/-- **whole-history cache transparency (partial: hybrid reranking off).**  Along any coherent history from a state with
an empty turn-level cache, at EVERY turn the T2 result the rest of the turn sees with the cache as configured (ON) is
(1) what `t2_semantic` computes on the current state with this turn's oracles, (2) what the same turn on the same
state sees with the cache OFF; (3) in particular a HIT serves the value a fresh computation returns now.
MISSING (hence `_partial`): `t2.hybrid.enabled = true` (needs invariance of the reranker under `edgesSame`). -/
theorem C01_compose_orch_cache_transparent_partial (hh : c.hyb.enabled = false) (s : State α) (hs : s.orch = [])
    (ts₁ : List (TurnIn α × Oracles α)) (p : TurnIn α × Oracles α) (ts₂ : List (TurnIn α × Oracles α))
    (hc : Coherent w c s (ts₁ ++ p :: ts₂)) :
    t2Of w c (runTurns w c s ts₁).state p.1 p.2 =
      (t2Call w c p.2 (runTurns w c s ts₁).state.gel (qOf w c (runTurns w c s ts₁).state p.1)
        (runTurns w c s ts₁).state.mem).getD (emptyT2 c) ∧
    t2Of w c (runTurns w c s ts₁).state p.1 p.2 =
      t2Of w { c with orchCacheOn := false } (runTurns w c s ts₁).state p.1 p.2 ∧
    ((t2Stage w c (runTurns w c s ts₁).state p.1 p.2).hit = true →
      (t2Stage w c (runTurns w c s ts₁).state p.1 p.2).out =
        (t2Call w c p.2 (runTurns w c s ts₁).state.gel (qOf w c (runTurns w c s ts₁).state p.1)
          (runTurns w c s ts₁).state.mem).getD (emptyT2 c)) := by
  have hg := (C01_compose_orchGood_history w c ts₁ s (p :: ts₂) (orchGood_empty w c s hs _) hc).1
  have h := t2Of_transparent w c hh _ p ts₂ hg
  exact ⟨h, by rw [t2Of_cache_off]; exact h, fun _ => h⟩

/-- the same for the recorded outputs: the `t2` field of the `i`-th output of the history is the fresh result on the
state the first `i` turns left -/
theorem C01_compose_orch_cache_transparent_outs_partial (hh : c.hyb.enabled = false) (s : State α) (hs : s.orch = [])
    (ts₁ : List (TurnIn α × Oracles α)) (p : TurnIn α × Oracles α) (ts₂ : List (TurnIn α × Oracles α))
    (hc : Coherent w c s (ts₁ ++ p :: ts₂)) :
    ((runTurns w c s (ts₁ ++ p :: ts₂)).outs[ts₁.length]?).map (·.t2) =
      some ((t2Call w c p.2 (runTurns w c s ts₁).state.gel (qOf w c (runTurns w c s ts₁).state p.1)
        (runTurns w c s ts₁).state.mem).getD (emptyT2 c)) := by
  rw [runTurns_append, runTurns_cons]
  dsimp only
  rw [← outs_length w c s ts₁, List.getElem?_append_right (Nat.le_refl _), Nat.sub_self]
  simp only [List.getElem?_cons_zero, Option.map_some, runTurn_t2]
  rw [(C01_compose_orch_cache_transparent_partial w c hh s hs ts₁ p ts₂ hc).1]

end AnyCarrier

end Clem.Compose

/-! ## lift: cache ON vs cache OFF over a whole history -/

namespace Clem.Refl

theorem gather_arts_irrelevant (t : TurnIn) :
    gatherSnippets { t with arts := Clem.Compose.artsOf t.items t.cfg.topk } = gatherSnippets { t with arts := [] } := by
  unfold gatherSnippets extractSnippets
  dsimp only
  by_cases hk : 0 < t.cfg.topk
  · rw [if_pos hk, if_pos hk]
    by_cases he : ((t.items.filter nonEmpty).take t.cfg.topk.toNat).isEmpty = true
    · -- the fallback is consulted only when no retrieved text is non-empty: then the artifacts are empty too
      have hf := (List.take_eq_nil_iff.1 (List.isEmpty_iff.1 he)).resolve_left
        fun h0 => absurd (Int.toNat_eq_zero.1 h0) (Int.not_le.2 hk)
      have ha : Clem.Compose.artsOf t.items t.cfg.topk = [] := by
        unfold Clem.Compose.artsOf pyTake
        rw [if_pos (Int.le_of_lt hk)]
        exact List.filter_eq_nil_iff.2 fun a ha => List.filter_eq_nil_iff.1 hf a (List.mem_of_mem_take ha)
      rw [if_pos he, if_pos he, ha]
    · rw [if_neg he, if_neg he]
  · rw [if_neg hk, if_neg hk]

theorem tail_arts (cl : Bool) (c : CtxSt) (t : TurnIn) (a b : List Str) (o : Oracles)
    (h : gatherSnippets { t with arts := a } = gatherSnippets { t with arts := b }) :
    tail cl c { t with arts := a } o = tail cl c { t with arts := b } o := by
  -- `arts` is read by `gatherSnippets` alone, and that only in `callReflect`
  have hc : callReflect { t with arts := a } o = callReflect { t with arts := b } o := by
    unfold callReflect; rw [h]; rfl
  have hg : gateCall { t with arts := a } o = gateCall { t with arts := b } o := by
    unfold gateCall runReflection afterGate; rw [hc]
  unfold tail stashAfter
  rw [hg]
  rfl

end Clem.Refl

namespace Clem.Compose
section
variable {α : Type} [Clem.T1.Num α] [Clem.T2.Num α] [Clem.T3.PyOrd α] [Clem.Py.Num α] [Clem.Py.NumGel α]
variable (w : World α) (c : Cfg α)

/-- the configuration with the turn-level cache switched off -/
def cacheOff (c : Cfg α) : Cfg α := { c with orchCacheOn := false }
/-- the state without the turn-level cache -/
def unOrch (s : State α) : State α := { s with orch := [], orchH := [] }

variable (s : State α) (t : TurnIn α) (o : Oracles α)
variable (h2 : t2Of w c s t o = (t2Call w c o s.gel (qOf w c s t) s.mem).getD (emptyT2 c))
include h2

theorem off_t2Of : t2Of w (cacheOff c) (unOrch s) t o = t2Of w c s t o := by rw [h2]; rfl
theorem off_bundleOf : bundleOf w (cacheOff c) (unOrch s) t o = bundleOf w c s t o := by
  unfold bundleOf; rw [off_t2Of w c s t o h2]; rfl
theorem off_plan0Of : plan0Of w (cacheOff c) (unOrch s) t o = plan0Of w c s t o := by
  unfold plan0Of; rw [off_bundleOf w c s t o h2]; rfl
theorem off_boundaries : boundaries w (cacheOff c) (unOrch s) t o = boundaries w c s t o := by
  unfold boundaries consT2 consT3; rw [off_plan0Of w c s t o h2, off_t2Of w c s t o h2]; rfl
theorem off_yieldOf : yieldOf w (cacheOff c) (unOrch s) t o = yieldOf w c s t o := by
  unfold yieldOf; rw [off_boundaries w c s t o h2]; rfl
theorem off_reach (k : Nat) : reach w (cacheOff c) (unOrch s) t o k = reach w c s t o k := by
  unfold reach yr; rw [off_yieldOf w c s t o h2]
theorem off_gelOps : gelOps w (cacheOff c) (unOrch s) t o = gelOps w c s t o := by
  unfold gelOps gelObsOps gelTickOps gelMaintOps gelMaintOn gelTickOn gelObsOn gelItems
  simp only [off_reach w c s t o h2, off_t2Of w c s t o h2]; rfl
theorem off_gelAfterObs : gelAfterObs w (cacheOff c) (unOrch s) t o = gelAfterObs w c s t o := by
  unfold gelAfterObs gelObsOps gelObsOn gelItems
  simp only [off_reach w c s t o h2, off_t2Of w c s t o h2]; rfl
theorem off_gelNext : gelNext w (cacheOff c) (unOrch s) t o = gelNext w c s t o := by
  unfold gelNext; rw [off_gelOps w c s t o h2]; rfl
theorem off_ragOf : ragOf w (cacheOff c) (unOrch s) t o = ragOf w c s t o := by
  unfold ragOf; rw [off_bundleOf w c s t o h2, off_plan0Of w c s t o h2, off_gelAfterObs w c s t o h2]; rfl
theorem off_planFinal : planFinal w (cacheOff c) (unOrch s) t o = planFinal w c s t o := by
  unfold planFinal; rw [off_ragOf w c s t o h2]
theorem off_t4Of : t4Of w (cacheOff c) (unOrch s) t o = t4Of w c s t o := by
  unfold t4Of t4InOf; rw [off_planFinal w c s t o h2]; rfl
theorem off_commits : commits w (cacheOff c) (unOrch s) t o = commits w c s t o := by
  unfold commits; rw [off_reach w c s t o h2]; rfl
theorem off_utter : utterOfTurn w (cacheOff c) (unOrch s) t o = utterOfTurn w c s t o := by
  unfold utterOfTurn; rw [off_reach w c s t o h2, off_planFinal w c s t o h2]; rfl

theorem off_reflOut : reflOut w (cacheOff c) (unOrch s) t o = reflOut w c s t o := by
  have e0 : reflIn w (cacheOff c) (unOrch s) t o =
      { reflIn w c s t o with arts := match (ragOf w c s t o).texts2 with
          | some a => artsOf a c.refl.topk
          | none => artsOf ((t2Of w c s t o).retrieved.map (·.text)) c.refl.topk } := by
    unfold reflIn
    rw [off_utter w c s t o h2, off_t2Of w c s t o h2, off_ragOf w c s t o h2]
    rfl
  have hb : (reflIn w c s t o).arts = (match (ragOf w c s t o).texts2 with
      | some a => artsOf a c.refl.topk
      | none => if (t2Stage w c s t o).hit then [] else artsOf ((t2Of w c s t o).retrieved.map (·.text)) c.refl.topk) := rfl
  have key : Clem.Refl.tail true Clem.Refl.CtxSt.fresh (reflIn w (cacheOff c) (unOrch s) t o) reflOrc =
      Clem.Refl.tail true Clem.Refl.CtxSt.fresh { reflIn w c s t o with arts := (reflIn w c s t o).arts } reflOrc := by
    rw [e0]
    apply Clem.Refl.tail_arts
    rw [hb]
    cases (ragOf w c s t o).texts2 with
    | some a => rfl
    | none =>
      cases (t2Stage w c s t o).hit with
      | false => rfl
      | true => exact Clem.Refl.gather_arts_irrelevant (reflIn w c s t o)
  unfold reflOut
  rw [off_yieldOf w c s t o h2, key]

theorem off_apply_version : (applyOf w (cacheOff c) (unOrch s) t o).version = (applyOf w c s t o).version := by
  unfold applyOf; rw [off_t4Of w c s t o h2]; rfl
theorem off_apply_applied : (applyOf w (cacheOff c) (unOrch s) t o).applied = (applyOf w c s t o).applied := by
  unfold applyOf; rw [off_t4Of w c s t o h2]; rfl
theorem off_apply_snap : (applyOf w (cacheOff c) (unOrch s) t o).snap = (applyOf w c s t o).snap := by
  unfold applyOf; rw [off_t4Of w c s t o h2]; rfl
theorem off_apply_calls : (applyOf w (cacheOff c) (unOrch s) t o).calls = (applyOf w c s t o).calls := by
  unfold applyOf; rw [off_t4Of w c s t o h2]; rfl
theorem off_snapBody : snapBody w (cacheOff c) (unOrch s) t o = snapBody w c s t o := by
  unfold snapBody snapIn
  rw [off_commits w c s t o h2, off_apply_snap w c s t o h2, off_apply_version w c s t o h2,
    off_apply_applied w c s t o h2, off_t4Of w c s t o h2, off_gelNext w c s t o h2]
  rfl
theorem off_nextState : nextState w (cacheOff c) (unOrch s) t o = unOrch (nextState w c s t o) := by
  have hw : storeBatch (cacheOff c) = storeBatch c := rfl
  have ht1 : t1cNext w (cacheOff c) (unOrch s) t = t1cNext w c s t := rfl
  have hH : (t2Stage w (cacheOff c) (unOrch s) t o).orchH = [] := rfl
  have horch : orchNext w (cacheOff c) (unOrch s) t o = [] := by
    show (if _ then [] else if _ then [] else []) = []
    rw [ite_self, ite_self]
  unfold nextState
  simp only [off_commits w c s t o h2, off_apply_version w c s t o h2, off_t4Of w c s t o h2, off_gelNext w c s t o h2,
    off_reflOut w c s t o h2, off_snapBody w c s t o h2, ht1, horch, hH, hw,
    show (unOrch s).orchH = [] from rfl, ite_self]
  rfl

/-- what a turn shows that does not mention the cache: the T2 result, the plan bundle, the final plan, the utterance and
line, T4's verdict, what reached the store, the new version, the reflection tail, the snapshot body, the yield -/
def visible (x : TurnOut α) :=
  (x.t2, x.bundle, x.ops, x.deltas, x.utter, x.t4, x.storeCalls, x.line, x.refl, x.snapBody, x.yielded,
   x.apply.map (·.version))

theorem off_visible : visible (runTurn w (cacheOff c) (unOrch s) t o) = visible (runTurn w c s t o) := by
  unfold visible runTurn
  simp only [off_t2Of w c s t o h2, off_bundleOf w c s t o h2, off_reach w c s t o h2, off_planFinal w c s t o h2,
    off_utter w c s t o h2, off_t4Of w c s t o h2, off_commits w c s t o h2, off_apply_calls w c s t o h2,
    off_yieldOf w c s t o h2, off_reflOut w c s t o h2, off_snapBody w c s t o h2, off_apply_version w c s t o h2,
    Option.map_if]
  rfl
end

section
variable {α : Type} [Clem.T1.Num α] [Clem.T2.Num α] [Clem.T3.PyOrd α] [Clem.Py.Num α] [Clem.Py.NumGel α]
variable (w : World α) (c : Cfg α)

/-- **whole-history lift (partial: hybrid off).**  Along a coherent history the run with the turn-level cache ON and the
run with it OFF (same world, turns, oracles; the OFF run starts from the same state without the cache) stay in step:
after every prefix the states agree up to the cache (`unOrch`), and every turn shows the same `visible` part — only the
cache flags (`orchHit`, `orchSize`, `t2Calls`, `hinfo` of a served result, the apply record's invalidation count) differ. -/
theorem C01_compose_orch_cache_off_history_partial (hh : c.hyb.enabled = false) (ts : List (TurnIn α × Oracles α)) :
    ∀ s : State α, OrchGood w c s ts → Coherent w c s ts →
      (runTurns w (cacheOff c) (unOrch s) ts).state = unOrch (runTurns w c s ts).state ∧
      (runTurns w (cacheOff c) (unOrch s) ts).outs.map visible = (runTurns w c s ts).outs.map visible := by
  induction ts with
  | nil => intro s _ _; rw [runTurns_nil, runTurns_nil]; exact ⟨rfl, rfl⟩
  | cons p r ih =>
    intro s hg hc
    have h2 := t2Of_transparent w c hh s p r hg
    obtain ⟨i1, i2⟩ := ih _ (nextState_orchGood w c s p r hg hc) hc.2
    rw [← off_nextState w c s p.1 p.2 h2] at i1 i2
    rw [runTurns_cons, runTurns_cons]
    exact ⟨i1, congrArg₂ List.cons (off_visible w c s p.1 p.2 h2) i2⟩

/-- from a fresh state (both caches empty) the two runs are literally the same history up to the cache -/
theorem C01_compose_orch_cache_on_eq_off_partial (hh : c.hyb.enabled = false) (s : State α) (hs : s.orch = [])
    (hs' : s.orchH = []) (ts : List (TurnIn α × Oracles α)) (hc : Coherent w c s ts) :
    (runTurns w (cacheOff c) s ts).state = unOrch (runTurns w c s ts).state ∧
    (runTurns w (cacheOff c) s ts).outs.map visible = (runTurns w c s ts).outs.map visible := by
  have hu : unOrch s = s := by
    cases s; cases hs; cases hs'; rfl
  have := C01_compose_orch_cache_off_history_partial w c hh ts s (orchGood_empty w c s hs ts) hc
  rwa [hu] at this
end

/-! ## the hypotheses are satisfiable (a real hit) and `Coherent` is necessary -/

namespace Example

/-- T4 off (the version never moves), reflection and GEL off, hybrid reranking OFF, the turn-level cache ON -/
def cfgT : Cfg Int := { cfgAB true with hyb := { cfg.hyb with enabled := false } }

/-- a turn saying "apple" whose oracle scores the two memories `cos` -/
def tA (i : Int) (cos : List Int) : TurnIn Int × Oracles Int :=
  (⟨apple, i, false, [], true, [], [hookDelta], 0, none⟩, ⟨[⟨apple ++ [32] ++ apple, cos, [], []⟩], 0, [], [], []⟩)

/-- same text, same oracle answers: the second turn is served by the cache -/
def histGood : List (TurnIn Int × Oracles Int) := [tA 1 [9, 7], tA 2 [9, 7]]
/-- same text, but the second turn's oracle ranks the memories the other way round -/
def histBad : List (TurnIn Int × Oracles Int) := [tA 1 [9, 7], tA 2 [7, 9]]

def freshIds (ts : List (TurnIn Int × Oracles Int)) (p : TurnIn Int × Oracles Int) : List Str :=
  let si := (runTurns world cfgT s0 ts).state
  (((t2Call world cfgT p.2 si.gel (qOf world cfgT si p.1) si.mem).getD (emptyT2 cfgT)).retrieved).map (·.id)

end Example

set_option maxRecDepth 100000 in
/-- non-vacuity: a coherent history with hybrid off whose second turn is a REAL cache hit; the served ranking is the
fresh one -/
example :
    Example.cfgT.hyb.enabled = false ∧ Example.s0.orch = [] ∧ Coherent Example.world Example.cfgT Example.s0 Example.histGood ∧
    (runTurns Example.world Example.cfgT Example.s0 Example.histGood).outs.map (·.orchHit) = [false, true] ∧
    (runTurns Example.world Example.cfgT Example.s0 Example.histGood).outs.map (fun o => o.t2.retrieved.map (·.id)) =
      [[[101, 49], [101, 50]], [[101, 49], [101, 50]]] ∧
    Example.freshIds [Example.tA 1 [9, 7]] (Example.tA 2 [9, 7]) = [[101, 49], [101, 50]] := by
  refine ⟨rfl, rfl, ⟨?_, ?_, trivial⟩, by decide +kernel⟩
  · intro p' hp' _
    have hp'' := List.mem_singleton.1 hp'
    subst hp''
    rfl
  · intro p' hp'
    cases hp'

set_option maxRecDepth 100000 in
/-- non-vacuity of the lift: on `histGood` (second turn served by the cache) the cache-OFF run shows the same rankings and
lines and makes two T2 calls where the cache-ON run makes one -/
example :
    (runTurns Example.world (cacheOff Example.cfgT) Example.s0 Example.histGood).outs.map (fun o => (o.t2.retrieved.map (·.id), o.line)) =
      (runTurns Example.world Example.cfgT Example.s0 Example.histGood).outs.map (fun o => (o.t2.retrieved.map (·.id), o.line)) ∧
    (runTurns Example.world (cacheOff Example.cfgT) Example.s0 Example.histGood).outs.map (·.t2Calls) = [1, 1] ∧
    (runTurns Example.world Example.cfgT Example.s0 Example.histGood).outs.map (·.t2Calls) = [1, 0] := by
  decide +kernel

/-- **`Coherent` is necessary**: drop it and the conclusion of `C01_compose_orch_cache_transparent_partial` fails.  All
its other hypotheses hold (hybrid off, empty cache at the start); the second turn of `histBad` has the same key as the
first (same version, text, agent, T1 deltas, index version) and is served the FIRST turn's ranking `[e1, e2]`, while
`t2_semantic` on the same state with the second turn's oracle returns `[e2, e1]`; with the cache off the turn sees
`[e2, e1]` -/
theorem C01_compose_orch_cache_needs_coherence :
    Example.cfgT.hyb.enabled = false ∧ Example.s0.orch = [] ∧
    ¬ Coherent Example.world Example.cfgT Example.s0 Example.histBad ∧
    (runTurns Example.world Example.cfgT Example.s0 Example.histBad).outs.map (·.orchHit) = [false, true] ∧
    (runTurns Example.world Example.cfgT Example.s0 Example.histBad).outs.map (fun o => o.t2.retrieved.map (·.id)) =
      [[[101, 49], [101, 50]], [[101, 49], [101, 50]]] ∧
    Example.freshIds [Example.tA 1 [9, 7]] (Example.tA 2 [7, 9]) = [[101, 50], [101, 49]] ∧
    (runTurns Example.world { Example.cfgT with orchCacheOn := false } Example.s0 Example.histBad).outs.map
      (fun o => o.t2.retrieved.map (·.id)) = [[[101, 49], [101, 50]], [[101, 50], [101, 49]]] := by
  refine ⟨rfl, rfl, ?_, by decide +kernel⟩
  intro h
  have h1 := h.1 (Example.tA 2 [7, 9]) (List.mem_singleton.2 rfl) rfl
  have h2 := congrArg (fun v => v.1.map (·.cos)) h1
  revert h2
  decide +kernel

end Clem.Compose
