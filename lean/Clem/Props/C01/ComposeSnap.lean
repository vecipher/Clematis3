/-
# C01 (composition) — snapshots and the boot path: the crash/restart quantifier

On a committed cadence turn `apply_changes` writes `state_<agent>.json`; the composed model predicts its BODY with
C06's payload model (`Clem.Snap.payloadOf`) from the turn's own values: the version after the bump, the store's
applied count, T4's approved list, the store's weight map after the apply and the GEL store after the tick.  A
process starts with the boot hook (`load_latest_snapshot`, once per state): `bootOf` = C06's `loadFrom` on the body
in the directory.

What a snapshot does NOT carry (read off `write_snapshot` / `load_latest_snapshot`): the T1 process cache, the
orchestrator's T2 cache (it lives on the state object), the memory index (reflection episodes), and the exact GEL
weights (the writer rounds them to 6 decimals, clamps and prunes).  `C01_compose_restart` states the restart law under
exactly these hypotheses; the `_needs_*` theorems are witnesses that each one is needed.
-/
import Clem.Proofs.Compose
import Clem.Props.C01.ComposeRefl
import Clem.Props.C06

set_option linter.unusedSectionVars false

namespace Clem.Compose

open Clem.Snap Clem.Py.JV

section AnyCarrier
variable {α : Type} [Clem.T1.Num α] [Clem.T2.Num α] [Clem.T3.PyOrd α] [Clem.Py.Num α] [Clem.Py.NumGel α]
variable (w : World α) (c : Cfg α)

theorem runTurn_snapBody (s : State α) (t : TurnIn α) (o : Oracles α) :
    (runTurn w c s t o).snapBody = snapBody w c s t o := rfl

/-- **when a body is written.**  Exactly on the turns whose apply record names a snapshot: the turn commits
(T4 on, no dry run, no yield before Apply) and the turn id is on the cadence. -/
theorem C01_compose_snap_written (s : State α) (t : TurnIn α) (o : Oracles α) :
    ((runTurn w c s t o).snapBody.isSome = true ↔
      (commits w c s t o = true ∧ (applyOf w c s t o).snap.isSome = true)) ∧
    ((runTurn w c s t o).snapBody.isSome = true → ∃ a, (runTurn w c s t o).apply = some a ∧ a.snap.isSome = true) := by
  rw [runTurn_snapBody, runTurn_apply]
  have key : (snapBody w c s t o).isSome = true ↔
      (commits w c s t o = true ∧ (applyOf w c s t o).snap.isSome = true) :=
    ⟨fun h => let ⟨_, hb⟩ := Option.isSome_iff_exists.1 h; ((snapBody_eq_some w c s t o).1 hb).1,
     fun h => Option.isSome_iff_exists.2 ⟨_, (snapBody_eq_some w c s t o).2 ⟨h, rfl⟩⟩⟩
  refine ⟨key, fun h => ⟨_, ?_, (key.1 h).2⟩⟩
  rw [if_pos (key.1 h).1]

/-- **what the body says** (key order and the values taken from the turn): the ten keys of C06_payload_keys in
order; `version_etag` is the decimal string of the version AFTER this turn's bump — the version the next state
carries; `applied` is the count the apply record reports; `deltas` are T4's approved deltas in order; `store` is the
export of the weight map the next state carries. -/
theorem C01_compose_snap_body (s : State α) (t : TurnIn α) (o : Oracles α) (b : J α)
    (hb : (runTurn w c s t o).snapBody = some b) :
    ∃ kv, b = .obj kv ∧
      keys kv = [kTurn, kAgent, kVersionEtag, kApplied, kDeltas, kSchemaVersion, kStore, kGraphSchemaVersion,
                 kGel, kGraph] ∧
      getD kVersionEtag .null kv = .str (decStr (applyOf w c s t o).version) ∧
      (nextState w c s t o).ver = .num (applyOf w c s t o).version ∧
      getD kApplied .null kv = .int (applyOf w c s t o).applied ∧
      getD kDeltas .null kv = .arr ((t4Of w c s t o).approved.map deltaJ) ∧
      getD kAgent .null kv = .str w.agent ∧
      aget kStore kv = some (exportStore (wToStore (nextState w c s t o).w)) := by
  rw [runTurn_snapBody] at hb
  obtain ⟨⟨hc, _⟩, hb⟩ := (snapBody_eq_some w c s t o).1 hb
  refine ⟨payloadKV c.wops c.cv c.snapB (snapIn w c s t o), hb.symm, rfl, rfl, ?_, rfl, rfl, rfl, ?_⟩
  · rw [nextState_ver, if_pos hc]
  · rw [payload_store, nextState_w, if_pos hc]; rfl

/-! ## the boot hook restores what the body carries -/

theorem wOfStore_wToStore (m : List ((Str × Str × Str) × α)) :
    (match wToStore m with | .wmap l => wOfStore l | _ => []) = m := by
  show wOfStore (m.map (fun p => ([p.1.1, p.1.2.1, p.1.2.2], p.2))) = m
  unfold wOfStore
  induction m with
  | nil => rfl
  | cons a r ih =>
    simp only [List.map_cons, List.filterMap_cons]
    rw [ih]

/-- the directory is empty: fresh v1.1 graph containers, nothing else changes -/
theorem C01_compose_boot_empty (sF : State α) :
    bootOf c sF none = { sF with gel := some bootEmptyStore, gelV11 := true, lastSnap := none } := rfl

/-- **boot = C06's load.**  Booting a fresh state `sF` from the body a committed cadence turn wrote restores the
version that turn produced (`hv`: the decimal string reads back), exactly the weight map of the store after that turn
(no duplicate keys — it is a dict), and the GEL section as C06's loader returns it; everything else is `sF`'s. -/
theorem C01_compose_boot_loads (C : CvLaws c.cv) (s sF : State α) (t : TurnIn α) (o : Oracles α) (b : J α)
    (hb : snapBody w c s t o = some b)
    (hv : verOfStr (decStr (applyOf w c s t o).version) = .num (applyOf w c s t o).version)
    (hk : (keys (match wToStore (nextState w c s t o).w with | .wmap l => l | _ => [])).Nodup) :
    ∃ l, loadFrom c.wops c.cv c.snapB b (wToStore sF.w) = some l ∧
      bootOf c sF (some b) =
        { sF with ver := (nextState w c s t o).ver, w := (nextState w c s t o).w,
                  gel := some (storeOfGel c.wops.zero l.graph), gelV11 := true, lastSnap := some b } := by
  obtain ⟨⟨hc, _⟩, rfl⟩ := (snapBody_eq_some w c s t o).1 hb
  have hw : (nextState w c s t o).w = (storeBatch c s.w (t4Of w c s t o).approved).w := by
    rw [nextState_w, if_pos hc]
  have hver : (nextState w c s t o).ver = .num (applyOf w c s t o).version := by
    rw [nextState_ver, if_pos hc]
  have hok : StoreOk (snapIn w c s t o).store (wToStore sF.w) := by
    show StoreOk (wToStore (storeBatch c s.w (t4Of w c s t o).approved).w) (wToStore sF.w)
    rw [← hw]
    refine StoreOk.wm _ _ ?_ hk
    intro p hp
    obtain ⟨q, _, rfl⟩ := List.mem_map.1 hp
    rfl
  obtain ⟨l, hl, hls⟩ := Clem.Props.C06_load_store (o := c.wops) (b := c.snapB) C (snapIn w c s t o) (wToStore sF.w) hok
  obtain ⟨l', hl', hlv⟩ := Clem.Props.C06_load_version_str (o := c.wops) (b := c.snapB) C (snapIn w c s t o)
    (wToStore sF.w) (decStr (applyOf w c s t o).version) rfl
  cases Option.some.inj (hl'.symm.trans hl)
  refine ⟨l, hl, ?_⟩
  unfold bootOf
  simp only [hl, hlv, hls]
  have hst : (snapIn w c s t o).store = wToStore (nextState w c s t o).w := by rw [hw]; rfl
  rw [hst, hver, hv]
  have := wOfStore_wToStore (nextState w c s t o).w
  simp only [wToStore] at this ⊢
  rw [this]

/-! ## what is not carried stays put when the gates are closed -/

theorem reflOut_written_closed (s : State α) (t : TurnIn α) (o : Oracles α) (h : c.refl.allow = false) :
    (reflOut w c s t o).written = [] :=
  (reflOut_closed w c s t o (.inr (by rw [gateOpen_reflIn, h, Bool.and_false, Bool.false_and]))).2.1

/-- with the T1 cache and the orchestrator cache off and reflection not allowed, a turn leaves the parts of the
state a snapshot does not carry where they were -/
theorem nextState_uncarried (s : State α) (t : TurnIn α) (o : Oracles α)
    (h1 : c.t1.cacheOn = false) (h2 : c.orchCacheOn = false) (h3 : c.refl.allow = false) :
    (nextState w c s t o).t1c = s.t1c ∧ (nextState w c s t o).orch = s.orch ∧
    (nextState w c s t o).orchH = s.orchH ∧ (nextState w c s t o).memN = s.memN ∧
    (nextState w c s t o).gelV11 = s.gelV11 ∧ (nextState w c s t o).mem = s.mem := by
  obtain ⟨_, _, ho, hH⟩ := t2Stage_off w c s t o h2
  have hr := reflOut_written_closed w c s t o h3
  refine ⟨?_, ?_, ?_, ?_, rfl, ?_⟩
  · rw [nextState_t1c]; unfold t1cNext; rw [h1]; rfl
  · rw [nextState_orch]; unfold orchNext
    rw [h2, Bool.and_false, if_neg Bool.false_ne_true, ho, ite_self]
  · rw [nextState_orchH, h2, Bool.and_false, if_neg Bool.false_ne_true, hH, ite_self]
  · rw [nextState_memN, hr]; rfl
  · show s.mem ++ (reflOut w c s t o).written = s.mem
    rw [hr, List.append_nil]

theorem runTurns_uncarried (ts : List (TurnIn α × Oracles α))
    (h1 : c.t1.cacheOn = false) (h2 : c.orchCacheOn = false) (h3 : c.refl.allow = false) :
    ∀ s : State α, (runTurns w c s ts).state.t1c = s.t1c ∧ (runTurns w c s ts).state.orch = s.orch ∧
    (runTurns w c s ts).state.orchH = s.orchH ∧ (runTurns w c s ts).state.memN = s.memN ∧
    (runTurns w c s ts).state.gelV11 = s.gelV11 ∧ (runTurns w c s ts).state.mem = s.mem := by
  intro s
  refine (runTurns_inv w c (P := fun s' => s'.t1c = s.t1c ∧ s'.orch = s.orch ∧ s'.orchH = s.orchH ∧
    s'.memN = s.memN ∧ s'.gelV11 = s.gelV11 ∧ s'.mem = s.mem) (fun s' t o a => ?_) ⟨rfl, rfl, rfl, rfl, rfl, rfl⟩ ts).1
  have b := nextState_uncarried w c s' t o h1 h2 h3
  exact ⟨b.1.trans a.1, b.2.1.trans a.2.1, b.2.2.1.trans a.2.2.1, b.2.2.2.1.trans a.2.2.2.1,
         b.2.2.2.2.1.trans a.2.2.2.2.1, b.2.2.2.2.2.trans a.2.2.2.2.2⟩

/-- the generic half: if booting from the directory gives back the state the first process ended in, the two
processes together produce exactly the records and the final state of one process running all turns -/
theorem C01_compose_restart_of_boot (s0 sF : State α) (ts : List (TurnIn α × Oracles α)) (k : Nat)
    (hboot : bootOf c sF (runTurns w c s0 (ts.take k)).state.lastSnap = (runTurns w c s0 (ts.take k)).state) :
    restartHist w c s0 sF k ts = runTurns w c s0 ts := by
  unfold restartHist
  simp only [hboot]
  conv => rhs; rw [← List.take_append_drop k ts, runTurns_append]

/-- **crash / restart.**  Process 1 boots on an empty directory (`bootOf c sF none`), runs `pre` and then a turn
`(t, o)` that writes a snapshot; a FRESH process (state `sF` again: nothing carried over but the directory) boots
from that file and runs `post`.  The records of the two processes and the final state are those of one process
running `pre ++ [(t, o)] ++ post` — PROVIDED

* the T1 process cache and the orchestrator's T2 cache are off, and reflection is not allowed (none of the three is
  in the snapshot: caches start empty again, the memory index is rebuilt from the initial episodes);
* the version string reads back (`hv`) and the weight map has no duplicate keys (`hk`);
* the GEL store survives the write/load pair (`hg`: the writer clamps, rounds to 6 decimals and prunes; the loader
  re-keys); `C01_compose_restart_nonvacuous` is an instance.

Each proviso is needed: `C01_compose_restart_needs_*`. -/
theorem C01_compose_restart (C : CvLaws c.cv) (sF : State α)
    (pre post : List (TurnIn α × Oracles α)) (t : TurnIn α) (o : Oracles α)
    (h1 : c.t1.cacheOn = false) (h2 : c.orchCacheOn = false) (h3 : c.refl.allow = false)
    (hsnap : (snapBody w c (runTurns w c (bootOf c sF none) pre).state t o).isSome = true)
    (hv : verOfStr (decStr (applyOf w c (runTurns w c (bootOf c sF none) pre).state t o).version) =
            .num (applyOf w c (runTurns w c (bootOf c sF none) pre).state t o).version)
    (hk : (keys (match wToStore (nextState w c (runTurns w c (bootOf c sF none) pre).state t o).w with
                 | .wmap l => l | _ => [])).Nodup)
    (hg : ∀ b l, snapBody w c (runTurns w c (bootOf c sF none) pre).state t o = some b →
            loadFrom c.wops c.cv c.snapB b (wToStore sF.w) = some l →
            some (storeOfGel c.wops.zero l.graph) =
              (nextState w c (runTurns w c (bootOf c sF none) pre).state t o).gel) :
    restartHist w c (bootOf c sF none) sF (pre.length + 1) (pre ++ (t, o) :: post) =
      runTurns w c (bootOf c sF none) (pre ++ (t, o) :: post) := by
  apply C01_compose_restart_of_boot
  have htake : (pre ++ (t, o) :: post).take (pre.length + 1) = pre ++ [(t, o)] := by
    rw [List.take_append, List.take_of_length_le (Nat.le_succ _), Nat.add_sub_cancel_left, List.take_one]; rfl
  have hst : (runTurns w c (bootOf c sF none) (pre ++ [(t, o)])).state =
      nextState w c (runTurns w c (bootOf c sF none) pre).state t o := by
    rw [runTurns_append, runTurns_cons, runTurns_nil]; rfl
  -- the parts the snapshot does not carry: still `sF`'s in the first process's final state
  obtain ⟨e1, e2, e3, e4, e5, e6⟩ := hst ▸ runTurns_uncarried w c (pre ++ [(t, o)]) h1 h2 h3 (bootOf c sF none)
  rw [htake, hst]
  generalize (runTurns w c (bootOf c sF none) pre).state = s at *
  obtain ⟨b, hb⟩ := Option.isSome_iff_exists.1 hsnap
  have hlast : (nextState w c s t o).lastSnap = some b := by
    show (match snapBody w c s t o with | some b => some b | none => s.lastSnap) = some b
    rw [hb]
  obtain ⟨l, hl, hboot⟩ := C01_compose_boot_loads w c C s sF t o b hb hv hk
  rw [hlast, hboot, hg b l hb hl]
  generalize nextState w c s t o = n at *
  show (⟨n.w, n.ver, sF.t1c, sF.orch, sF.orchH, n.gel, sF.memN, true, some b, sF.mem⟩ : State α) =
    ⟨n.w, n.ver, n.t1c, n.orch, n.orchH, n.gel, n.memN, n.gelV11, n.lastSnap, n.mem⟩
  rw [e1, e2, e3, e4, e5, e6, hlast]
  rfl

end AnyCarrier

end Clem.Compose
