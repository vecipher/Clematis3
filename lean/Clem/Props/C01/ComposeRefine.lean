/-
# C01 (composition) — refinement: the composed turn IS the stage models, on the inputs the composition hands them

`C01_compose_refines_stages`: for every world, configuration, state, turn input and oracle table, each stage output
of the composed turn equals the stand-alone stage model of its package applied to the stage input the glue builds —
literally the definitions `Clem.T1.addGraph` / `Clem.T1.t1` (C12), `Clem.T2.t2` (C11), `Clem.T3.deliberate` /
`ragOnce` / `speak` (C13), `Clem.T4.t4` (C03), `Clem.Apply.apply` (C04), `Clem.Sched.firstYield` (C17),
`Clem.Gel.run` (C18), `Clem.Refl.tail` (C19), `Clem.Snap.payloadOf` (C06).  Because a turn of a history — one agent
or several — is such a composed turn on a reachable state (`C01_compose_agents_step`), every theorem those packages
prove about their stage model holds for every turn of every history.

Transfer corollaries stated here:
* C13 `C01_compose_plan_cap`, `C01_compose_plan_head`, `C01_compose_utter_budget`, `C01_compose_line_budget`;
* C03 `C01_compose_t4_delta_order`: T4's whole result — approved list, rejections, reasons, counters — does not depend
  on the ORDER in which the plan lists its deltas (C03's permutation invariance on the glue's T4 input);
* C17 (after the fix `C17_t1_slice_budget_shared_across_graphs`) `C01_compose_slice_t1_total`: the TOTAL pops / layers
  of the turn's T1 record — over all active graphs — stay within the slice budget;
* C15: `Props/C01/ComposeCacheRefine.lean` (`C01_compose_cache_refines_ttl_lru`).
-/
import Clem.Proofs.Compose
import Clem.Props.C01.ComposeAgents
import Clem.Props.C13
import Clem.Props.C17
import Clem.Props.C03

set_option linter.unusedSectionVars false

namespace Clem.Compose

section AnyCarrier
variable {α : Type} [Clem.T1.Num α] [Clem.T2.Num α] [Clem.T3.PyOrd α] [Clem.Py.Num α] [Clem.Py.NumGel α]
variable (w : World α) (c : Cfg α)

/-- `_sanitize_utterance` keeps an empty utterance and strips any other; stripping the empty one changes nothing -/
theorem utterOf_eq (ops : List Clem.T3.Op) :
    utterOf c ops = Clem.T3.strip (Clem.T3.speak (speakCore ops) true [] (opTok ops) (some c.tokens)).text := by
  unfold utterOf
  dsimp only
  split
  · rename_i h
    rw [List.isEmpty_iff.1 h]; rfl
  · rfl

/-- **Refinement.**  Every stage output of the composed turn is the stand-alone stage model on the input the glue
hands it.  (T2: freshly computed, unless the orchestrator's cache serves an entry — which is such a result of an
earlier turn, `GoodState`.) -/
theorem C01_compose_refines_stages (s : State α) (t : TurnIn α) (o : Oracles α) :
    -- C12: T1 = the per-graph fold of the stage model over the active graphs, from the process cache
    (runTurn w c s t o).t1 =
      (t1Graphs w).foldl (Clem.T1.addGraph (t1Cfg c) t.text)
        { Clem.T1.tot0 with cache := if (t1Cfg c).cacheOn then t1Pre s.t1c (t1Graphs w) t.text else [] } ∧
    -- C11: a fresh T2 result is the stage model on the index of this turn under the oracle of the query text
    (∀ qo, lookupQ o (qOf w c s t) = some qo → (t2Stage w c s t o).hit = false →
      (runTurn w c s t o).t2 =
        Clem.T2.t2 (t2Cfg w c o qo) c.tiers (withCos (epsAt w s.mem o) qo.cos) (hybOf c s.gel) (qualOf c qo) (t2K c)
          c.residualCap (gnodes w)) ∧
    -- C13: the plan is `deliberate` on the bundle (+ the hook's ops), refined by `ragOnce`; the utterance is `speak`
    (plan0Of w c s t o).ops =
      (if t3On c t then Clem.T3.deliberate (bundleOf w c s t o) ++ (if t.hook then t.hookOps else []) else []) ∧
    (t3On c t = true → (plan0Of w c s t o).ops.any Clem.T3.Op.isRetrieve = true → 1 ≤ c.maxRagLoops →
      ∃ r2, (planFinal w c s t o).ops =
        (Clem.T3.ragOnce (bundleOf w c s t o) (plan0Of w c s t o).ops r2 false).ops) ∧
    (utterOf c (planFinal w c s t o).ops =
      Clem.T3.strip (Clem.T3.speak (speakCore (planFinal w c s t o).ops) true []
        (opTok (planFinal w c s t o).ops) (some c.tokens)).text) ∧
    -- C03 / C04: T4 and Apply are the stage models on the glue's inputs
    t4Of w c s t o = Clem.T4.t4 c.sqrt c.thr (t4Input w c t (planFinal w c s t o)) ∧
    applyOf w c s t o =
      Clem.Apply.apply (applyIn c s t (t4Of w c s t o).approved (t2Stage w c s t o).size) ∧
    -- C17: the yield decision is the scheduler model on the boundary counters
    (∀ b, c.sched = some b → yieldOf w c s t o = Clem.Sched.firstYield b (boundaries w c s t o)) ∧
    -- C18 / C19 / C06
    (nextState w c s t o).gel = Clem.Gel.run c.gel c.pw s.gel (gelOps w c s t o) ∧
    ((yieldOf w c s t o).isSome = false →
      (runTurn w c s t o).refl = (Clem.Refl.tail true Clem.Refl.CtxSt.fresh (reflIn w c s t o) reflOrc).2) ∧
    (∀ b, (runTurn w c s t o).snapBody = some b →
      b = Clem.Snap.payloadOf c.wops c.cv c.snapB (snapIn w c s t o)) := by
  refine ⟨runTurn_t1 w c s t o, ?_, plan0Of_ops w c s t o, ?_, utterOf_eq c _, rfl, rfl, ?_, nextState_gel w c s t o, ?_, ?_⟩
  · intro qo hq hh
    exact t2Of_of_miss w c s t o hh hq
  · intro h3 hr hl
    unfold planFinal ragOf
    rw [if_pos h3]
    unfold ragStep
    rw [if_pos (by rw [hr, decide_eq_true hl]; rfl)]
    exact ⟨_, rfl⟩
  · intro b hb
    unfold yieldOf
    rw [hb]
  · intro hy
    rw [runTurn_refl]
    unfold reflOut
    rw [hy]
    rfl
  · intro b hb
    exact ((snapBody_eq_some w c s t o).1 hb).2.symm

/-! ## transfer: C13 (planning and speaking) -/

/-- the stock planner's part of the plan is `deliberate` of the turn's bundle -/
theorem plan0_stock (s : State α) (t : TurnIn α) (o : Oracles α) (h3 : t3On c t = true) (hh : t.hook = false) :
    (plan0Of w c s t o).ops = Clem.T3.deliberate (bundleOf w c s t o) := by
  rw [plan0Of_ops, if_pos h3, hh, if_neg Bool.false_ne_true, List.append_nil]

/-- **C13 op cap**, in every turn of every (multi-agent) history: the stock plan has at most
`max 0 (min max_ops_per_turn slice t3_ops)` operations (zero and negative caps included) -/
theorem C01_compose_plan_cap (s : State α) (ts : List (TurnIn α × Oracles α)) :
    ∀ o ∈ (runTurnsMA w c s ts).outs, ∃ t ∈ ts, t.1.hook = false →
      (o.planOps0.length : Int) ≤ max 0 (Clem.T3.capsOps o.bundle) := by
  intro o ho
  obtain ⟨s', t, ht, rfl⟩ := C01_compose_agents_step w c ts s o ho
  refine ⟨t, ht, ?_⟩
  intro hh
  show (((plan0Of (wFor w t.1) c s' t.1 t.2).ops.length : Nat) : Int) ≤
    max 0 (Clem.T3.capsOps (bundleOf (wFor w t.1) c s' t.1 t.2))
  by_cases h3 : t3On c t.1 = true
  · rw [plan0_stock (wFor w t.1) c s' t.1 t.2 h3 hh]
    exact Clem.Props.C13.C13_delib_cap _
  · rw [plan0Of_ops, if_neg h3]
    exact Int.le_max_left 0 _

/-- **C13 Speak first + intent by thresholds**: a non-empty stock plan starts with the Speak op `speakOf` builds from
the bundle — sorted, de-duplicated topic labels, the configured token budget, the intent dictated by `tau_high` /
`tau_low` for the best similarity of THIS turn's retrieval -/
theorem C01_compose_plan_head (s : State α) (t : TurnIn α) (o : Oracles α) (h3 : t3On c t = true)
    (hh : t.hook = false) :
    (runTurn w c s t o).planOps0 = [] ∨
    ∃ rest, (runTurn w c s t o).planOps0 =
      Clem.T3.speakOf (bundleOf w c s t o) (simMax (t2Of w c s t o)) :: rest := by
  show (plan0Of w c s t o).ops = [] ∨ ∃ rest, (plan0Of w c s t o).ops = _ :: rest
  rw [plan0_stock w c s t o h3 hh]
  exact Clem.Props.C13.C13_delib_head (bundleOf w c s t o)

/-- the utterance of a turn is `speak`'s text through `_sanitize_utterance`'s `.strip()` -/
theorem utterOf_sanitized (ops : List Clem.T3.Op) :
    Clem.T3.Sanitized (Clem.T3.speak (speakCore ops) true [] (opTok ops) (some c.tokens)).text (utterOf c ops) := by
  rw [utterOf_eq]
  exact Clem.T3.Sanitized.done _

/-- **C13 token budget**, composed: the utterance of every turn has at most `max 0 budget` whitespace tokens, where
the budget is the first Speak op's `max_tokens` (when truthy) or the agent's `tokens` cap — whatever the labels,
whatever the plan (stock, hook or refined by `rag_once`) -/
theorem C01_compose_utter_budget (s : State α) (t : TurnIn α) (o : Oracles α) :
    Clem.T3.withinBudget (runTurn w c s t o).utter
      (Clem.T3.speakBudget (opTok (planFinal w c s t o).ops) (some c.tokens)) = true := by
  show Clem.T3.withinBudget (utterOfTurn w c s t o) _ = true
  unfold utterOfTurn
  split
  · exact Clem.Props.C13.C13_turn_line_budget _ _ _ _ _ _ (utterOf_sanitized c _)
  · unfold Clem.T3.withinBudget
    apply decide_eq_true
    show (((Clem.T3.tokenize ([] : Str)).length : Nat) : Int) ≤ _
    have : (Clem.T3.tokenize ([] : Str)).length = 0 := rfl
    rw [this]
    omega

/-- … hence so has the LINE a completed turn returns whenever it carries the utterance (a non-empty one) -/
theorem C01_compose_line_budget (s : State α) (t : TurnIn α) (o : Oracles α)
    (hu : (runTurn w c s t o).utter ≠ []) :
    Clem.T3.withinBudget (runTurn w c s t o).line
      (Clem.T3.speakBudget (opTok (planFinal w c s t o).ops) (some c.tokens)) = true := by
  have hline : (runTurn w c s t o).line = (runTurn w c s t o).utter := by
    rw [runTurn_line, runTurn_utter]
    split
    · rfl
    · unfold finalLine
      rw [runTurn_utter] at hu
      rw [if_pos (by rw [List.isEmpty_eq_false_iff.2 hu]; rfl)]
  rw [hline]
  exact C01_compose_utter_budget w c s t o

/-! ## transfer: C17 after the fix `C17_t1_slice_budget_shared_across_graphs` — the slice budgets bind the TOTALS -/

open Clem.T1 in
/-- every entry of the T1 process cache is a per-graph result within the caps it was computed under -/
def T1cOK (s : State α) : Prop := ∀ e ∈ s.t1c, Clem.T1.EOK e.2

open Clem.T1 in
theorem addGraph_per (c0 : Clem.T1.Cfg α) (text : List Nat) (t : Clem.T1.Tot α) (g : Clem.T1.Graph α)
    (ht : t.err = false) : (addGraph c0 text t g).per = t.per ++ [stepRes c0 text t g] := by
  unfold addGraph stepRes
  simp only [ht, Bool.false_eq_true, if_false]
  rfl

open Clem.T1 in
theorem foldl_per_ok (c0 : Clem.T1.Cfg α) (text : List Nat) (gs : List (Clem.T1.Graph α)) :
    ∀ t : Clem.T1.Tot α, TInv c0 t → (∀ r ∈ t.per, EOK r) →
      TInv c0 (gs.foldl (addGraph c0 text) t) ∧ ∀ r ∈ (gs.foldl (addGraph c0 text) t).per, EOK r := by
  induction gs with
  | nil => intro t hI hp; exact ⟨hI, hp⟩
  | cons g gs ih =>
    intro t hI hp
    apply ih (addGraph c0 text t g) (addGraph_inv c0 text t g hI)
    by_cases ht : t.err = true
    · have : addGraph c0 text t g = t := by unfold addGraph; simp [ht]
      rw [this]; exact hp
    · have ht' : t.err = false := by simpa using ht
      rw [addGraph_per c0 text t g ht']
      intro r hr
      rcases List.mem_append.1 hr with h | h
      · exact hp r h
      · rw [List.mem_singleton] at h
        rw [h]
        exact (stepRes_ok c0 text t g hI.cache).1

open Clem.T1 in
/-- the T1 run of a turn from a state with an OK cache: totals within the slice budgets, per-graph results OK -/
theorem t1Of_ok (s : State α) (t : TurnIn α) (hs : T1cOK s) :
    TInv (t1Cfg c) (t1Of w c s t) ∧ ∀ r ∈ (t1Of w c s t).per, EOK r := by
  unfold t1Of t1Run
  apply foldl_per_ok
  · refine ⟨fun _ _ h0 => h0, fun _ _ h0 => h0, fun e he => ?_⟩
    dsimp only at he
    split at he
    · obtain ⟨g, _, hg⟩ := List.mem_flatMap.1 he
      obtain ⟨e', he', rfl⟩ := List.mem_map.1 hg
      exact hs e' (List.mem_filter.1 he').1
    · cases he
  · intro r hr
    cases hr

open Clem.T1 in
theorem nextState_t1cOK (s : State α) (t : TurnIn α) (o : Oracles α) (hs : T1cOK s) :
    T1cOK (nextState w c s t o) := by
  intro e he
  have he' : e ∈ t1cNext w c s t := he
  unfold t1cNext at he'
  split at he'
  · rcases List.mem_append.1 he' with h | h
    · exact hs e h
    · unfold t1Puts at h
      simp only [List.mem_filterMap] at h
      obtain ⟨p, hp, hsome⟩ := h
      split at hsome
      · injection hsome with hsome
        rw [← hsome]
        exact (t1Of_ok w c s t hs).2 p.2 (List.of_mem_zip hp).2
      · cases hsome
  · exact hs e he'

/-- **C17 (fixed tree), composed: the slice budgets bind the turn's T1 TOTALS.**  In every turn of every multi-agent
history started with an empty (or OK) T1 process cache — result cache on or off, any number of active graphs — the
`pops` / `iters` the t1 record reports (what `_should_yield` compares with the budgets) never exceed a non-negative
`t1_pops` / `t1_iters` slice budget: each graph runs under what the earlier graphs of the turn left.  (Before the fix
only the per-graph clamp `C01_compose_slice_t1` held and the totals could exceed the budget.) -/
theorem C01_compose_slice_t1_total (b : Clem.Sched.Budgets) (hb : c.sched = some b) (s : State α)
    (ts : List (TurnIn α × Oracles α)) (hs : T1cOK s) :
    ∀ o ∈ (runTurnsMA w c s ts).outs,
      (∀ p, b.t1Pops = some p → 0 ≤ p → (o.t1.pops : Int) ≤ p) ∧
      (∀ i, b.t1Iters = some i → 0 ≤ i → o.t1.iters ≤ i) := by
  have hcfg : t1Cfg c = { c.t1 with sliceIters := b.t1Iters, slicePops := b.t1Pops } := by
    unfold t1Cfg; rw [hb]
  intro o ho
  obtain ⟨s', t, hs', _, rfl⟩ :=
    (runTurnsMA_inv w c (fun s t o => nextState_t1cOK (wFor w t) c s t o) hs ts).2 o ho
  have hI := (t1Of_ok (wFor w t.1) c s' t.1 hs').1
  exact ⟨fun p hp h0 => hI.pops p (by rw [hcfg]; exact hp) h0, fun i hi h0 => hI.iters i (by rw [hcfg]; exact hi) h0⟩

theorem t1cOK_of_empty (s : State α) (h : s.t1c = []) : T1cOK s := by
  intro e he; rw [h] at he; cases he

/-! ## transfer: C03 (permutation invariance of the meta-filter) -/

/-- **the order of the plan's deltas is irrelevant to the turn**: for every plan the glue hands to T4, listing the
same deltas in another order gives the same `T4Result` (approved list in canonical order, rejected ops, reasons, all
counters of the t4 record) — hence the same store batch, apply record and snapshot.  Carrier: any total order
(`Float` on NaN-free values). -/
theorem C01_compose_t4_delta_order (ho : Clem.T4.LeTotalOrder α) (t : TurnIn α) (p : PlanSt α)
    (ds' : List (Clem.T4.Delta α)) (hp : p.deltas.Perm ds') :
    Clem.T4.t4 c.sqrt c.thr (t4Input w c t ⟨p.ops, ds'⟩) = Clem.T4.t4 c.sqrt c.thr (t4Input w c t p) :=
  Clem.T4.C03_perm_invariant ho c.sqrt c.thr (t4Input w c t p) ds' hp

end AnyCarrier



end Clem.Compose
