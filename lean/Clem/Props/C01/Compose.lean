/-
# C01 (composition) — a history of turns is a FUNCTION of (world, config, turn list, oracles), and the per-stage
guarantees of C03 / C04 / C11 / C12 / C13 hold for EVERY turn of EVERY history

Theorems about `Clem/Model/Compose.lean` — the composed turn model `clemdrv` executes (routes `compose.turn`,
`compose.hist`) against the real `Orchestrator.run_turn` (`harness/lib/compose_comp.py`).  All statements are
unbounded (induction over the turn list) and hold for every number carrier unless a section says otherwise.
What the model carries from turn to turn is its `State` (store weights, version, the T1 result cache, the
orchestrator's T2 cache, the GEL store, the memory index, the last snapshot body); there is no TTL expiry or eviction
inside a history.  The subsystems each have a file of their own under `Props/C01/` (imported below).
-/
import Clem.Proofs.Compose
import Clem.Props.C01.ComposeGel
import Clem.Props.C01.ComposeSched
import Clem.Props.C01.ComposeQuality
import Clem.Props.C01.ComposeRefl
import Clem.Props.C01.ComposeSnap
import Clem.Props.C01.ComposeMemory
import Clem.Props.C01.ComposeAgents
import Clem.Props.C01.ComposeLog
import Clem.Props.C01.ComposeCache
import Clem.Props.C01.ComposeRefine
import Clem.Props.C01.ComposeCacheRefine

set_option linter.unusedSectionVars false

namespace Clem.Compose

section AnyCarrier
variable {α : Type} [Clem.T1.Num α] [Clem.T2.Num α] [Clem.T3.PyOrd α] [Clem.Py.Num α] [Clem.Py.NumGel α]
variable (w : World α) (c : Cfg α)

/-! ## (a) replay: `runTurns` is a function of its arguments; a turn depends on the past only through the state -/

/-- Same world, configuration, initial state, turn list and oracle answers ⇒ same records, lines, store
hand-offs and final state.  (Definitional: there is no clock, hash order or process state in the model; the
correspondence harness is what ties this to the code.) -/
theorem C01_compose_replay (w' : World α) (c' : Cfg α) (s s' : State α)
    (ts ts' : List (TurnIn α × Oracles α)) (hw : w = w') (hc : c = c') (hs : s = s') (ht : ts = ts') :
    runTurns w c s ts = runTurns w' c' s' ts' := by
  subst hw hc hs ht; rfl

/-- One step of a history: the output of a turn is `runTurn` of (world, config, state handed over, turn, oracles);
the rest of the history continues from the state that turn returned. -/
theorem C01_compose_step (s : State α) (t : TurnIn α × Oracles α) (ts : List (TurnIn α × Oracles α)) :
    runTurns w c s (t :: ts) =
      ⟨runTurn w c s t.1 t.2 :: (runTurns w c (runTurn w c s t.1 t.2).state ts).outs,
       (runTurns w c (runTurn w c s t.1 t.2).state ts).state⟩ :=
  runTurns_cons w c s t ts

/-! ## (b) no hidden state -/

/-- Running a history in two halves with the intermediate `State` handed over equals running it whole: nothing
else is carried from turn to turn. -/
theorem C01_compose_no_hidden_state (s : State α) (ts₁ ts₂ : List (TurnIn α × Oracles α)) :
    runTurns w c s (ts₁ ++ ts₂) =
      ⟨(runTurns w c s ts₁).outs ++ (runTurns w c (runTurns w c s ts₁).state ts₂).outs,
       (runTurns w c (runTurns w c s ts₁).state ts₂).state⟩ :=
  runTurns_append w c s ts₁ ts₂

/-- Fresh process vs. warm process: the turns `ts₂` produce the same outputs whether they are
run by the process that already ran `ts₁` or by a fresh one started from the handed-over state. -/
theorem C01_compose_fresh_eq_warm (s : State α) (ts₁ ts₂ : List (TurnIn α × Oracles α)) :
    (runTurns w c s (ts₁ ++ ts₂)).outs.drop ts₁.length = (runTurns w c (runTurns w c s ts₁).state ts₂).outs ∧
    (runTurns w c s (ts₁ ++ ts₂)).state = (runTurns w c (runTurns w c s ts₁).state ts₂).state := by
  rw [C01_compose_no_hidden_state]
  refine ⟨?_, rfl⟩
  dsimp only
  rw [← outs_length w c s ts₁, List.drop_left]

/-- one output per turn -/
theorem C01_compose_outs_length (s : State α) (ts : List (TurnIn α × Oracles α)) :
    (runTurns w c s ts).outs.length = ts.length := outs_length w c s ts

/-! ## (c) lifts: every turn of every history -/

/-- **C03, structural clauses.**  In every turn of every history, whatever T4 approved has at most one delta
per target, is in canonical target order, respects the churn cap, contains nothing whose recorded origin is an op
in cooldown, and only targets something the planner hook proposed IN THAT TURN (`o.deltas`, which is the hook's
list or empty — `C01_compose_deltas_from_hook`). -/
theorem C01_compose_envelope (s : State α) (ts : List (TurnIn α × Oracles α)) :
    ∀ o ∈ (runTurns w c s ts).outs, ∀ r inp, o.t4 = some r → o.t4in = some inp →
      r = Clem.T4.t4 c.sqrt c.thr inp ∧
      (r.approved.map Clem.T4.ckey).Nodup ∧
      r.approved.Pairwise (fun a b => Clem.Py.lexLt (Clem.T4.ckey a) (Clem.T4.ckey b) = true) ∧
      (0 ≤ c.churn → (r.approved.length : Int) ≤ c.churn) ∧
      (∀ d ∈ r.approved, ∀ j, d.opIdx = some j → ∀ i ∈ Clem.T4.blockedOps inp, (i : Int) ≠ j) ∧
      (∀ d ∈ r.approved, ∃ d₀ ∈ o.deltas, d₀.kind = d.kind ∧ d₀.id = d.id ∧ d₀.attr = d.attr) := by
  intro o ho r inp hr hi
  obtain ⟨s', t, _, rfl⟩ := mem_outs w c ho
  rw [runTurn_t4] at hr
  rw [runTurn_t4in] at hi
  split at hr
  · rename_i he
    rw [if_pos he] at hi
    cases hr; cases hi
    refine ⟨rfl, ?_, ?_, ?_, ?_, ?_⟩
    · exact Clem.T4.C03_unique_targets c.sqrt c.thr _
    · exact Clem.T4.C03_sorted c.sqrt c.thr _
    · intro hk; exact Clem.T4.C03_churn c.sqrt c.thr _ hk
    · exact Clem.T4.C03_cooldown c.sqrt c.thr _
    · exact Clem.T4.C03_subset c.sqrt c.thr _
  · cases hr

/-- What T4 is given in a turn is the planner hook's delta list of that turn, or nothing (stock planner, T3
skipped, or a plan refined by `rag_once`, which drops `deltas`). -/
theorem C01_compose_deltas_from_hook (s : State α) (ts : List (TurnIn α × Oracles α)) :
    ∀ o ∈ (runTurns w c s ts).outs, ∃ t ∈ ts, o.deltas = t.1.hookDeltas ∨ o.deltas = [] := by
  intro o ho
  obtain ⟨s', t, ht, rfl⟩ := mem_outs w c ho
  exact ⟨t, ht, t4_deltas_from_hook w c s' t.1 t.2⟩

/-- **C04, hand-off.**  In every turn of every history the store receives exactly that turn's approved list, as
one batch, once — or nothing at all when the turn does not reach Apply (kill switch / dry run / yielded earlier). -/
theorem C01_compose_store_once (s : State α) (ts : List (TurnIn α × Oracles α)) :
    ∀ o ∈ (runTurns w c s ts).outs,
      (∀ a, o.apply = some a → ∃ r, o.t4 = some r ∧ o.storeCalls = [r.approved]) ∧
      (o.apply = none → o.storeCalls = [] ) := by
  intro o ho
  obtain ⟨s', t, _, rfl⟩ := mem_outs w c ho
  constructor
  · intro a ha
    have hc := ((apply_eq_some w c s' t.1 t.2).1 ha).1
    -- a committing turn has the kill switch off and passed the T4 boundary, hence the T3 boundary
    obtain ⟨hg, h3⟩ := Bool.and_eq_true_iff.1 hc
    have he : (c.t4Enabled && reach w c s' t.1 t.2 2) = true := by
      rw [(Bool.and_eq_true_iff.1 hg).1, reach_mono w c s' t.1 t.2 (Nat.le_succ 2) h3]
      rfl
    refine ⟨t4Of w c s' t.1 t.2, by rw [runTurn_t4, if_pos he], ?_⟩
    rw [runTurn_storeCalls, if_pos hc]
    exact calls_once c s' t.1 _ _
  · intro ha
    have hc : ¬ commits w c s' t.1 t.2 = true := fun h =>
      nomatch ha.symm.trans ((apply_eq_some w c s' t.1 t.2).2 ⟨h, rfl⟩)
    rw [runTurn_storeCalls, if_neg hc]

/-- **C04, version.**  After a history the version is the initial one plus the number of turns that reached Apply
(= the number of apply records). -/
theorem C01_compose_version (s : State α) (ts : List (TurnIn α × Oracles α)) (v : Int) (h : s.ver = .num v) :
    (runTurns w c s ts).state.ver =
      .num (v + ((runTurns w c s ts).outs.filter (fun o => o.apply.isSome)).length) := by
  rw [← commitCount_eq_applies]
  exact version_history w c s ts v h

/-- … in particular `v0 + n` after `n` turns when the kill switch is off, no turn is a dry run and the scheduler
is off. -/
theorem C01_compose_version_all_committed (s : State α) (ts : List (TurnIn α × Oracles α)) (v : Int)
    (h : s.ver = .num v) (he : c.t4Enabled = true) (hd : ∀ t ∈ ts, t.1.dryRun = false) (hs : c.sched = none) :
    (runTurns w c s ts).state.ver = .num (v + ts.length) := by
  rw [version_history w c s ts v h]
  have : ∀ (s : State α) (ts : List (TurnIn α × Oracles α)), (∀ t ∈ ts, t.1.dryRun = false) →
      commitCount w c s ts = ts.length := by
    intro s ts
    induction ts generalizing s with
    | nil => intro _; rfl
    | cons t ts ih =>
      intro hd
      have hc : commits w c s t.1 t.2 = true := by
        unfold commits committed
        rw [he, hd t List.mem_cons_self, reach_sched_off w c s t.1 t.2 hs 3 (by decide)]
        rfl
      rw [commitCount, if_pos hc, ih _ (fun t' ht' => hd t' (List.mem_cons_of_mem _ ht')), List.length_cons,
        Nat.add_comm]
  rw [this s ts hd]

/-- **C11.**  In every turn of every history (started with an empty — or any good — orchestrator cache) the
retrieved hits, freshly computed or served by that cache, are at most `k_retrieval` (validator range `k ≥ 1`),
have distinct ids, are visible under the owner scope of the querying agent, have a vector and pass the similarity
threshold test; under `owner_scope = agent` every hit is owned by the agent. -/
theorem C01_compose_retrieval (s : State α) (ts : List (TurnIn α × Oracles α)) (hk : 1 ≤ c.k)
    (hs : GoodState w c s) :
    ∀ o ∈ (runTurns w c s ts).outs,
      (o.t2.retrieved.length : Int) ≤ c.k ∧ (o.t2.retrieved.map (·.id)).Nodup ∧
      (∀ e ∈ o.t2.retrieved,
        Clem.T2.visible (Clem.T2.ownerForQuery c.scope (some w.agent)) e = true ∧ Clem.T2.passes c.θ e = true) ∧
      (c.scope = 1 → ∀ e ∈ o.t2.retrieved, e.ownerStr = w.agent) := by
  intro o ho
  rcases outs_t2_good w c hs o ho with h0 | ⟨o', qo, hh, qq, mem', h0⟩ <;> rw [h0]
  · refine ⟨?_, List.nodup_nil, ?_, ?_⟩
    · show ((0 : Nat) : Int) ≤ c.k
      omega
    · intro e he; cases he
    · intro _ e he; cases he
  · have h := Clem.T2.C11_t2_retrieved (t2Cfg w c o' qo) c.tiers (withCos (epsAt w mem' o') qo.cos) hh qq (t2K c)
      c.residualCap (gnodes w) hk
    refine ⟨h.1, h.2.1, fun e he => ⟨(h.2.2 e he).2.1, (h.2.2 e he).2.2.1⟩, ?_⟩
    intro hsc e he
    exact Clem.T2.C11_t2_scope_agent (t2Cfg w c o' qo) c.tiers (withCos (epsAt w mem' o') qo.cos) hh qq (t2K c)
      c.residualCap (gnodes w) w.agent hsc rfl e he

/-- … in particular for a history started with an empty orchestrator cache (`goodState_of_empty`) -/
theorem C01_compose_retrieval_fresh (s : State α) (ts : List (TurnIn α × Oracles α)) (hk : 1 ≤ c.k)
    (h0 : s.orch = []) :
    ∀ o ∈ (runTurns w c s ts).outs, (o.t2.retrieved.length : Int) ≤ c.k ∧
      (c.scope = 1 → ∀ e ∈ o.t2.retrieved, e.ownerStr = w.agent) := by
  intro o ho
  have h := C01_compose_retrieval w c s ts hk (goodState_of_empty w c s h0) o ho
  exact ⟨h.1, h.2.2.2⟩

/-- **C12.**  In every turn of every history T1 is the stage on the turn's text over the active graphs (with the
process cache some earlier turns left and the slice clamps of the scheduler, `t1Cfg`), and every per-graph run stays
within its pops / layers / relaxation budgets — the budgets of `t1Cfg`, i.e. `min(queue_budget, slice t1_pops)` and
`min(iter caps, slice t1_iters)` when the scheduler is on. -/
theorem C01_compose_t1_budgets (s : State α) (ts : List (TurnIn α × Oracles α)) :
    ∀ o ∈ (runTurns w c s ts).outs, ∃ t ∈ ts, ∃ cache,
      o.t1 = t1Run (t1Cfg c) (t1Graphs w) t.1.text cache ∧
      ∀ g ∈ t1Graphs w, Clem.T1.budgetOk (t1Cfg c) (Clem.T1.oneGraph (t1Cfg c) g t.1.text).pops
        (Clem.T1.oneGraph (t1Cfg c) g t.1.text).iters (Clem.T1.oneGraph (t1Cfg c) g t.1.text).props = true := by
  intro o ho
  obtain ⟨s', t, ht, rfl⟩ := mem_outs w c ho
  exact ⟨t, ht, s'.t1c, rfl, fun g _ => Clem.T1.C12_budgets (t1Cfg c) g t.1.text⟩

/-- … and with an empty process cache it is exactly the stage model of C12 -/
theorem C01_compose_t1_is_stage (s : State α) (t : TurnIn α) (o : Oracles α) (h : s.t1c = []) :
    (runTurn w c s t o).t1 = Clem.T1.t1 (t1Cfg c) (t1Graphs w) t.text := by
  rw [runTurn_t1, h, t1Run_nil]

/-- **C13.**  In every turn of every history `t2_semantic` runs at most twice (the stage itself — unless the
orchestrator's cache serves it — and at most one `rag_once` retrieval). -/
theorem C01_compose_t2_calls (s : State α) (ts : List (TurnIn α × Oracles α)) :
    ∀ o ∈ (runTurns w c s ts).outs, o.t2Calls ≤ 2 := by
  intro o ho
  obtain ⟨s', t, _, rfl⟩ := mem_outs w c ho
  rw [runTurn_t2Calls]
  -- the stage's own call, and `rag_once`'s
  apply Nat.add_le_add (b := 1) (d := 1)
  · split <;> decide
  · split
    · exact rag_calls_le_one w c s' t.1 t.2
    · exact Nat.zero_le 1

end AnyCarrier

/-! ## C03, numeric clauses (any ordered field) -/
section OrderedField
variable {α : Type} [Field α] [LinearOrder α] [IsStrictOrderedRing α]
variable [Clem.T1.Num α] [Clem.T2.Num α] [Clem.T3.PyOrd α] [Clem.Py.NumGel α]
variable (w : World α) (c : Cfg α)

/-- In every turn of every history each approved magnitude is at most the novelty cap and the approved vector's
L2 norm is at most `delta_norm_cap_l2` (`0 < cap` is the validator's range; `sqrt` with its two laws). -/
theorem C01_compose_envelope_numeric (s : State α) (ts : List (TurnIn α × Oracles α))
    (hs0 : ∀ x, 0 ≤ c.sqrt x) (hs : ∀ x, 0 ≤ x → c.sqrt x * c.sqrt x = x) (hc : 0 < c.capL2) :
    ∀ o ∈ (runTurns w c s ts).outs, ∀ r, o.t4 = some r →
      (∀ d ∈ r.approved, |d.delta| ≤ |c.capNov|) ∧ Clem.T4.sumSq r.approved ≤ c.capL2 * c.capL2 := by
  intro o ho r hr
  obtain ⟨s', t, _, rfl⟩ := mem_outs w c ho
  rw [runTurn_t4] at hr
  split at hr
  · cases hr
    exact ⟨Clem.T4.C03_novelty c.sqrt c.thr (t4InOf w c s' t.1 t.2) hc,
           Clem.T4.C03_l2 c.sqrt c.thr (t4InOf w c s' t.1 t.2) hs0 hs hc⟩
  · cases hr

end OrderedField

/-! ## (d) non-vacuity: a two-turn history evaluated by the kernel at an exact carrier (`Int`; thresholds scaled by 10)

World: one graph with the node `n1` labelled "apple", two memories "apple" (`e1`, `e2`) owned by the agent `A`.  Both
turns say "apple": T1 touches `n1`, the glue appends its label (query text "apple apple"), the oracle scores the
memories 9 and 7 (best ≥ τ_high = 8 ⇒ a `summary` plan, no retrieval), the planner hook proposes `+2` on `n:n1`, T4 approves it, the
store receives exactly that batch, the weight goes 0 → 2 → 4 and the version 0 → 1 → 2.  All caches are on; GEL is on: the two retrieved memories
co-activate in both turns (edge `e1→e2`, weight 2 then 4, `coact = 2`); the scheduler is on with non-binding budgets
(no yield); reflection is allowed and flagged: `reflect` runs in both turns, the summary is cut to 4 tokens and one
episode per turn is written (ops cap 1). -/
namespace Example

instance : Clem.T3.PyOrd Int := ⟨fun a b => decide (a ≥ b), fun a b => decide (a < b), fun a => (a.natAbs : Int), 0⟩

instance : Clem.Py.Num Int where
  zero := 0
  one := 1
  add a b := a + b
  sub a b := a - b
  mul a b := a * b
  div a b := a / b
  neg a := -a
  abs a := (a.natAbs : Int)
  lt a b := decide (a < b)
  le a b := decide (a ≤ b)
  beq a b := decide (a = b)

/-- toy carrier for the GEL part: `0.5` and the decay factor are 1 (no decay), integer arithmetic -/
instance : Clem.Py.NumGel Int where
  zero := 0
  one := 1
  half := 1
  add a b := a + b
  sub a b := a - b
  mul a b := a * b
  div a b := a / b
  neg a := -a
  abs a := (a.natAbs : Int)
  ofNat n := (n : Int)
  lt a b := decide (a < b)
  le a b := decide (a ≤ b)
  eq a b := decide (a = b)

/-- toy snapshot arithmetic: every integer is finite, `round(x, 6)` is the identity -/
def intOps : Clem.Snap.WOps Int :=
  { lt := fun a b => decide (a < b), fin := fun _ => true, round := fun x => x, abs := fun a => (a.natAbs : Int),
    zero := 0, one := 1, negOne := -1, isZero := fun x => decide (x = 0) }

def intCv : Clem.Snap.Cv Int :=
  { pyStr := fun | .str s => s | _ => [63]
    pyFloat := fun | .num x => some x | .int n => some n | _ => none
    pyInt := fun | .int n => some n | _ => none }

def apple : Str := [97, 112, 112, 108, 101]
def n1 : Str := [110, 49]
def agentA : Str := [65]

def world : World Int :=
  { graphs := [⟨[103], [⟨n1, apple⟩], []⟩]
    eps := [{ id := [101, 49], owner := .str agentA, hasVec := true, cos := 0, ts := .missing, quarter := 0,
              cluster := [99], importance := 0, text := apple, toks := [] },
            { id := [101, 50], owner := .str agentA, hasVec := true, cos := 0, ts := .missing, quarter := 0,
              cluster := [99], importance := 0, text := apple, toks := [] }]
    last := [], agent := agentA, reflFlag := true }

def t1cfg : Clem.T1.Cfg Int :=
  { queueBudget := 3, nodeBudget := 15, radiusCap := 4, iterCap := 5, iterCapLayers := 5, relaxCap := none,
    sliceIters := none, slicePops := none, perfEnabled := false, metricsEnabled := false, frontierCap := 0,
    visitedCap := 0, dedupeWindow := 0, decay := none, edgeMult := [], eps := 0, cacheOn := true }

def cfg : Cfg Int :=
  { t1 := t1cfg, scope := 1, ownerRaw := .agent, k := 2, θ := 0, days := 30, topM := 1, tiers := [2],
    alpha := 1, beta := 0, gamma := 0, residualCap := 4, t3Enabled := true, maxOps := 3, tokens := 16,
    maxRagLoops := 1, tauHigh := 8, tauLow := 4, epsEdit := 1, t4Enabled := true, capL2 := 10, capNov := 3,
    churn := 4, cooldowns := [], every := 1, sqrt := fun x => x, thr := 0, wmin := -10, wmax := 10,
    t2CacheOn := true, orchCacheOn := true, bust := true,
    gel := { enabled := true, threshold := 0, topK := 8, pairCap := 8, proportional := false, alpha := 2, cmin := -10,
             cmax := 10, hl := 1, floor := 0, concatK := false, topkLabel := 1, attachW := 1 },
    pw := fun _ _ => 1, doMerge := false, doSplit := false, doPromo := false, capMerge := 0, capSplit := 0, capPromo := 0,
    hyb := { enabled := true, useGraph := true, anchorTopM := 2, hops := 1, thresh := 0, lam := 1, damping := 0,
             invdeg := false, maxBonus := 5, kMax := 8, edges := [], fail := false },
    qual := { enabled := false, modeInterp := false, alphaSem := 0, lex := [], mmrEnabled := false, mmrLam := 0,
              mmrK := none, failFuse := false, failMmr1 := false, failMmr2 := false },
    refl := { allow := true, backend := Clem.Refl.sRule, topk := 2, limit := 4, embed := false, opsCap := some 1, wallMs := none,
              fxEnabled := false, fxPathOk := false },
    sched := some ⟨some 1000, some 9, some 9, some 9, some 9, some 1000⟩,
    wops := intOps, cv := intCv, snapB := ⟨-10, 10, 0⟩ }

def hookDelta : Clem.T4.Delta Int := ⟨[110], [110, 58, 110, 49], [119], 2, none, none⟩

/-- the oracle's description of the written reflection entries (id / cluster are stand-ins for the hashes) -/
def memOracle (mem : List Clem.Refl.Written) : List (Clem.T2.Ep Int) :=
  mem.map (fun wr => { id := 114 :: wr.turn, owner := .str sAgentLit, hasVec := wr.vec, cos := 0, ts := .missing,
                       quarter := 0, cluster := [99], importance := 0, text := wr.text, toks := [] })

def turnM (i : Int) (mem : List Clem.Refl.Written) : TurnIn Int × Oracles Int :=
  (⟨apple, i, false, [], true, [], [hookDelta], 0, none⟩,
   ⟨[⟨apple ++ [32] ++ apple, [9, 7, 8], [], []⟩], 0, [], [], memOracle mem⟩)

def turn (i : Int) : TurnIn Int × Oracles Int := turnM i []

def s0 : State Int := ⟨[], .num 0, [], [], [], none, 0, false, none, []⟩

/-- the second turn's oracle describes the entry the first turn wrote -/
def hist : Hist Int := runTurns world cfg s0 [turn 1, turnM 2 (runTurns world cfg s0 [turn 1]).state.mem]

end Example

/-- the example history: two outputs, each with a non-empty plan headed by a `summary` Speak op, the hook's delta
approved and handed to the store once, no oracle miss, a T1 cache hit in the second turn, the orchestrator's cache
entry invalidated by each apply, two version bumps and the accumulated weight -/
theorem C01_compose_nonvacuous :
    Example.hist.outs.map (·.qText) = [Example.apple ++ [32] ++ Example.apple, Example.apple ++ [32] ++ Example.apple] ∧
    Example.hist.outs.map (·.oracleMiss) = [false, false] ∧
    Example.hist.outs.map (fun o => o.ops.map Clem.T3.Op.isSpeak) = [[true], [true]] ∧
    Example.hist.outs.map (fun o => o.storeCalls.map (·.map (·.delta))) = [[[2]], [[2]]] ∧
    Example.hist.outs.map (·.t2Calls) = [1, 1] ∧
    Example.hist.outs.map (·.t1.cacheHits) = [0, 1] ∧
    Example.hist.outs.map (fun o => o.apply.map (·.invalidated)) = [some 1, some 1] ∧
    Example.hist.state.ver = .num 2 ∧
    Example.hist.state.w.map (·.2) = [4] ∧
    Example.hist.outs.map (fun o => o.gelObs.map (·.pairsUpdated)) = [some 1, some 1] ∧
    (Clem.Gel.edgesOf Example.hist.state.gel).map (fun e => (e.key, e.w, e.coact)) =
      [([101, 49, 0x2192, 101, 50], 4, some 2)] ∧
    Example.hist.outs.map (·.yielded) = [none, none] ∧
    Example.hist.outs.map (fun o => (o.refl.called, o.refl.written.length, o.refl.log.map (·.summaryLen))) =
      [(true, 1, some 4), (true, 1, some 4)] ∧
    Example.hist.state.memN = 2 := by
  decide +kernel

/-! ## restart: the law holds on an example, and every proviso of `C01_compose_restart` is needed -/

namespace Example

/-- the fresh process state -/
def sF : State Int := ⟨[], .num 0, [], [], [], none, 0, false, none, []⟩

/-- caches off, reflection not allowed (GEL stays ON: integer weights survive the toy `round`) -/
def cfgR : Cfg Int :=
  { cfg with t1 := { t1cfg with cacheOn := false }, orchCacheOn := false, refl := { cfg.refl with allow := false } }

def oneGo (c : Cfg Int) : Hist Int := runTurns world c (bootOf c sF none) [turn 1, turn 2]
def twoProcs (c : Cfg Int) : Hist Int := restartHist world c (bootOf c sF none) sF 1 [turn 1, turn 2]

/-- coarse `round(x, 6)`: multiples of ten -/
def cfgLossy : Cfg Int := { cfgR with wops := { intOps with round := fun x => x / 10 * 10 } }

end Example

/-- `str(int)` reads back through `int(str)` (the version round trip `hv` of `C01_compose_restart`) -/
theorem C01_compose_version_roundtrip : ∀ n : Fin 120, verOfStr (decStr (n.val : Int)) = .num n.val := by
  decide +kernel

/-- the restart law on the example (caches off, no reflection): two processes = one process, snapshot written by
the first turn, two version bumps, accumulated weight, the GEL edge carried through the snapshot -/
theorem C01_compose_restart_nonvacuous :
    (Example.twoProcs Example.cfgR).outs.map (·.t1.cacheHits) = (Example.oneGo Example.cfgR).outs.map (·.t1.cacheHits) ∧
    (Example.twoProcs Example.cfgR).outs.map (fun o => o.storeCalls.map (·.map (·.delta))) =
      (Example.oneGo Example.cfgR).outs.map (fun o => o.storeCalls.map (·.map (·.delta))) ∧
    (Example.twoProcs Example.cfgR).outs.map (fun o => o.apply.map (·.version)) =
      (Example.oneGo Example.cfgR).outs.map (fun o => o.apply.map (·.version)) ∧
    (Example.twoProcs Example.cfgR).outs.map (fun o => o.gelObs.map (·.pairsUpdated)) =
      (Example.oneGo Example.cfgR).outs.map (fun o => o.gelObs.map (·.pairsUpdated)) ∧
    (Example.twoProcs Example.cfgR).state.w = (Example.oneGo Example.cfgR).state.w ∧
    (Example.twoProcs Example.cfgR).state.ver = (Example.oneGo Example.cfgR).state.ver ∧
    (Example.twoProcs Example.cfgR).state.gel = (Example.oneGo Example.cfgR).state.gel ∧
    (Example.twoProcs Example.cfgR).state.memN = (Example.oneGo Example.cfgR).state.memN ∧
    (Example.oneGo Example.cfgR).outs.map (·.snapBody.isSome) = [true, true] ∧
    (Example.oneGo Example.cfgR).state.ver = .num 2 ∧
    (Example.oneGo Example.cfgR).state.w.map (·.2) = [4] ∧
    (Clem.Gel.edgesOf (Example.twoProcs Example.cfgR).state.gel).map (·.w) = [4] := by
  decide +kernel

/-- **the T1 process cache is not in the snapshot**: with it on, the second process misses where the single process
hits (`cache_hits` of the t1 record differ) -/
theorem C01_compose_restart_needs_t1_cache_off :
    (Example.twoProcs { Example.cfgR with t1 := Example.t1cfg }).outs.map (·.t1.cacheHits) = [0, 0] ∧
    (Example.oneGo { Example.cfgR with t1 := Example.t1cfg }).outs.map (·.t1.cacheHits) = [0, 1] := by
  decide +kernel

/-- **the orchestrator's T2 cache is not in the snapshot**: with it on (no bust), the single process ends with two
entries, the restarted one with one -/
theorem C01_compose_restart_needs_orch_cache_off :
    (Example.twoProcs { Example.cfgR with orchCacheOn := true, bust := false }).state.orch.length = 1 ∧
    (Example.oneGo { Example.cfgR with orchCacheOn := true, bust := false }).state.orch.length = 2 := by
  decide +kernel

/-- **the memory index is not in the snapshot**: with reflection allowed, the episodes written by the first process
are gone after the restart -/
theorem C01_compose_restart_needs_no_reflection :
    (Example.twoProcs { Example.cfgR with refl := Example.cfg.refl }).state.memN = 1 ∧
    (Example.oneGo { Example.cfgR with refl := Example.cfg.refl }).state.memN = 2 := by
  decide +kernel

/-- **GEL weights are rounded on write**: with a `round` that is not the identity on the stored weights, the edge the
second process continues from is not the edge the first one had (`hg` fails) -/
theorem C01_compose_restart_needs_gel_exact :
    (Clem.Gel.edgesOf (Example.twoProcs Example.cfgLossy).state.gel).map (·.w) = [2] ∧
    (Clem.Gel.edgesOf (Example.oneGo Example.cfgLossy).state.gel).map (·.w) = [4] := by
  decide +kernel

/-! ## memory growth: the entry the first turn wrote is retrieved by the second -/

namespace Example

/-- `owner_scope = any`, the writer embeds; agent "A" -/
def cfgM : Cfg Int := { cfg with scope := 0, k := 3, refl := { cfg.refl with embed := true } }
/-- the same under `owner_scope = agent` (the agent's id is "A", not the literal "agent") -/
def cfgMA : Cfg Int := { cfgM with scope := 1 }

def histM (c : Cfg Int) : Hist Int :=
  runTurns world c s0 [turn 1, turnM 2 (runTurns world c s0 [turn 1]).state.mem]

end Example

/-- under `any` the second turn's hits contain the reflection entry of turn 1 (the stand-in id `r1`, owner
"agent"), the first turn's do not; under `agent` (agent id "A") it stays invisible; no oracle miss either way -/
theorem C01_compose_memory_nonvacuous :
    (Example.histM Example.cfgM).outs.map (fun o => o.t2.retrieved.map (·.id)) =
      [[[101, 49], [101, 50]], [[101, 49], [101, 50], [114, 49]]] ∧
    (Example.histM Example.cfgM).outs.map (·.oracleMiss) = [false, false] ∧
    (Example.histM Example.cfgM).state.mem.map (·.vec) = [true, true] ∧
    (Example.histM Example.cfgMA).outs.map (fun o => o.t2.retrieved.map (·.id)) =
      [[[101, 49], [101, 50]], [[101, 49], [101, 50]]] := by
  decide +kernel

/-! ## two agents on one state -/

namespace Example

def agentB : Str := [66]

/-- one episode of each agent -/
def worldAB : World Int :=
  { world with eps := [{ id := [101, 49], owner := .str agentA, hasVec := true, cos := 0, ts := .missing, quarter := 0,
                         cluster := [99], importance := 0, text := apple, toks := [] },
                       { id := [101, 50], owner := .str agentB, hasVec := true, cos := 0, ts := .missing, quarter := 0,
                         cluster := [99], importance := 0, text := apple, toks := [] }] }

/-- `owner_scope = agent`; T4 off, so the version — half of the orchestrator cache key — never moves -/
def cfgAB (orchOn : Bool) : Cfg Int :=
  { cfg with scope := 1, t4Enabled := false, orchCacheOn := orchOn, bust := false,
             refl := { cfg.refl with allow := false }, gel := { cfg.gel with enabled := false } }

def turnOf (i : Int) (a : Str) : TurnIn Int × Oracles Int :=
  (⟨apple, i, false, [], true, [], [hookDelta], 0, some a⟩, ⟨[⟨apple ++ [32] ++ apple, [9, 7], [], []⟩], 0, [], [], []⟩)

def histAB (orchOn : Bool) : Hist Int := runTurnsMA worldAB (cfgAB orchOn) s0 [turnOf 1 agentA, turnOf 2 agentB]

end Example

/-- two agents, the same text, the same version (T4 off): since the fix `C05_turn_key_context` the orchestrator's
turn-level cache key carries the agent — agent B's lookup MISSES the entry agent A stored and retrieves B's own episode,
cache on or off (on the tree before the fix B was served A's hit: C05's finding `turn:agent`); the general statement is
`C01_compose_agents_scope_cached` -/
theorem C01_compose_agents_cache_isolated_example :
    (Example.histAB false).outs.map (fun o => o.t2.retrieved.map (·.id)) = [[[101, 49]], [[101, 50]]] ∧
    (Example.histAB true).outs.map (fun o => o.t2.retrieved.map (·.id)) = [[[101, 49]], [[101, 50]]] ∧
    (Example.histAB true).outs.map (·.orchHit) = [false, false] ∧
    (Example.histAB true).state.orch.length = 2 := by
  decide +kernel

/-! ## the log stream of the example turn -/

namespace Example

def envL : LogEnv := { now := some [110], nowIsoApply := some [105] }
def clk (x : Int) : Clock Int := ⟨x, x, x, x, x, x, x, x, x, x, x, x, x⟩
def isZ (x : Int) : Bool := decide (x = 0)

def msOf (l : List (Str × Clem.Py.JV.J Int)) : List (Option Bool) :=
  l.map (fun p => (fieldOf [109, 115] p.2).map (fun v => Clem.Py.JV.jbeq (fun a b => decide (a = b)) v (.num 0)))

def hasNow (l : List (Str × Clem.Py.JV.J Int)) : List Bool := l.map (fun p => (fieldOf [110, 111, 119] p.2).isSome)

end Example

/-- the example's first turn writes, in this order, t1, t2, gel (observe), t3, t3_plan, t3_dialogue, t4, gel (decay),
apply, t3_reflection, health, turn; before normalisation every stage line carries the measured `ms` (5) and `now`;
after it the identity lines have `ms = 0` and no `now`, the other lines are untouched -/
theorem C01_compose_log_nonvacuous :
    (emitted Example.isZ Example.world Example.cfg Example.envL Example.s0 (Example.turn 1).1 (Example.turn 1).2
      (Example.clk 5)).map (·.1) =
      [fT1, fT2, fGel, fT3, fT3Plan, fT3Dlg, fT4, fGel, fApply, fRefl, fHealth, fTurn] ∧
    Example.msOf (rawRecords Example.world Example.cfg Example.envL Example.s0 (Example.turn 1).1 (Example.turn 1).2
      (Example.clk 5)) =
      [some false, some false, some false, none, none, some false, some false, some false, some true, some false,
       none, none] ∧
    Example.msOf (emitted Example.isZ Example.world Example.cfg Example.envL Example.s0 (Example.turn 1).1
      (Example.turn 1).2 (Example.clk 5)) =
      [some true, some true, some false, none, none, some false, some true, some false, some true, some true,
       none, none] ∧
    Example.hasNow (emitted Example.isZ Example.world Example.cfg Example.envL Example.s0 (Example.turn 1).1
      (Example.turn 1).2 (Example.clk 5)) =
      [false, false, true, true, true, true, false, true, false, false, false, false] := by
  decide +kernel

end Clem.Compose
