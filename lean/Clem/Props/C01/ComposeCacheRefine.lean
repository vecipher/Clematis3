/-
# C01 (composition) — the composed turn-level cache refines C15's `_NamespaceCache` (TTL + LRU)

The composed model keeps the orchestrator's turn-level T2 cache as an association list (`State.orch`) and documents the
regime "no TTL expiry, no capacity eviction inside a history".  Here that regime is made a THEOREM against C15's
executable model of `clematis/engine/cache.py` (`Clem.TtlLru.Ns`: OrderedDict, TTL on read, LRU eviction on write):
with the harness's key normalisation `enc` (injective up to the key equality `okeyEq`) and any value encoding `val`,
a `_NamespaceCache` that holds the same keys with the same values (`SimC`)

* answers the turn's lookup exactly as the composed model does — hit / miss and the value served — whenever the entry
  looked up is not expired (`ttl = 0` or its age within the TTL), and
* after the turn's `get` (+ `set` on a miss, when the cap leaves room) again holds the same keys and values as the
  composed cache after the turn.

So C15's theorems about `get` / `set` (a hit is served only from a fresh entry and returns that entry's value; the key
just written is retrievable; nothing is evicted while there is room; unique keys, size bound) transfer to the cache
the composed turn models, and the "no expiry / no eviction" assumption is exactly: `ttl = 0 ∨ age ≤ ttl` at every
lookup and `len + 1 ≤ max` at every insert.
-/
import Clem.Proofs.Compose
import Clem.Props.C15.TtlLru

set_option linter.unusedSectionVars false

namespace Clem.Compose

open Clem.TtlLru

section AnyCarrier
variable {α : Type} [Clem.T1.Num α] [Clem.T2.Num α] [Clem.T3.PyOrd α] [Clem.Py.Num α] [Clem.Py.NumGel α]
variable (w : World α) (c : Cfg α)
variable (enc : OrchKey α → Nat) (val : Clem.T2.Out α → Nat)

/-- the composed cache and a `_NamespaceCache` hold the same keys (under `enc`) with the same values (under `val`) -/
def SimC (orch : List (OrchKey α × Clem.T2.Out α)) (ns : Ns) : Prop :=
  (∀ n, n ∈ ns.items.map Entry.key ↔ ∃ p ∈ orch, enc p.1 = n) ∧
  (∀ e ∈ ns.items, ∀ p ∈ orch, enc p.1 = e.key → val p.2 = e.val)

theorem lookup_some_mem {k : Nat} {l : List Entry} {e : Entry} (h : lookup k l = some e) : e ∈ l ∧ e.key = k :=
  Clem.KeyedList.find?_some h

theorem lookup_none_iff {k : Nat} {l : List Entry} : lookup k l = none ↔ k ∉ l.map Entry.key :=
  Clem.KeyedList.find?_eq_none

theorem mem_keys_without {k n : Nat} {l : List Entry} :
    n ∈ (without k l).map Entry.key ↔ n ∈ l.map Entry.key ∧ n ≠ k := by
  unfold without
  simp only [List.mem_map, List.mem_filter]
  constructor
  · rintro ⟨e, ⟨he, hk⟩, rfl⟩
    exact ⟨⟨e, he, rfl⟩, bne_iff_ne.1 hk⟩
  · rintro ⟨⟨e, he, rfl⟩, hk⟩
    exact ⟨e, ⟨he, bne_iff_ne.2 hk⟩, rfl⟩

section
variable {enc val} {orch : List (OrchKey α × Clem.T2.Out α)} {ns ns' : Ns}

/-- a read hit moves the entry to the MRU end: the same keys, the same values -/
theorem simC_touch {k : Nat} {e : Entry} (h : SimC enc val orch ns) (he : lookup k ns.items = some e)
    (hi : ns'.items = without k ns.items ++ [e]) : SimC enc val orch ns' := by
  obtain ⟨hm, hk⟩ := lookup_some_mem he
  refine ⟨fun n => ?_, fun e' he' => ?_⟩
  · rw [hi, List.map_append, List.mem_append, mem_keys_without, ← h.1 n, List.map_singleton, List.mem_singleton, hk]
    constructor
    · rintro (⟨h', _⟩ | rfl)
      · exact h'
      · exact List.mem_map.2 ⟨e, hm, hk⟩
    · intro h'
      by_cases hn : n = k
      · exact .inr hn
      · exact .inl ⟨h', hn⟩
  · rw [hi] at he'
    rcases List.mem_append.1 he' with h' | h'
    · exact h.2 e' (List.mem_filter.1 h').1
    · exact List.mem_singleton.1 h' ▸ h.2 e hm

/-- a write under a key the namespace does not hold, next to the same pair appended to the composed cache -/
theorem simC_insert {key : OrchKey α} {v : Clem.T2.Out α} {ts : Int} (h : SimC enc val orch ns)
    (hk : enc key ∉ ns.items.map Entry.key) (hi : ns'.items = ns.items ++ [⟨enc key, ts, val v⟩]) :
    SimC enc val (orch ++ [(key, v)]) ns' := by
  refine ⟨fun n => ?_, fun e' he' p hp hpk => ?_⟩
  · rw [hi, List.map_append, List.mem_append, h.1 n, List.map_singleton, List.mem_singleton]
    constructor
    · rintro (⟨p, hp, hpn⟩ | rfl)
      · exact ⟨p, List.mem_append_left _ hp, hpn⟩
      · exact ⟨(key, v), List.mem_append_right _ (List.mem_singleton.2 rfl), rfl⟩
    · rintro ⟨p, hp, hpn⟩
      rcases List.mem_append.1 hp with h' | h'
      · exact .inl ⟨p, h', hpn⟩
      · exact .inr (by rw [← hpn, List.mem_singleton.1 h'])
  · rw [hi] at he'
    rcases List.mem_append.1 he' with h1 | h1 <;> rcases List.mem_append.1 hp with h2 | h2
    · exact h.2 e' h1 p h2 hpk
    · rw [List.mem_singleton.1 h2] at hpk
      exact absurd (List.mem_map.2 ⟨e', h1, hpk.symm⟩) hk
    · rw [List.mem_singleton.1 h1] at hpk
      exact absurd ((h.1 _).2 ⟨p, h2, hpk⟩) hk
    · rw [List.mem_singleton.1 h1, List.mem_singleton.1 h2]

end

/-- **the composed turn-level cache refines `_NamespaceCache`** (cache on).  `henc`: the normalised keys are equal
exactly when the composed model's key equality holds. -/
theorem C01_compose_cache_refines_ttl_lru (s : State α) (t : TurnIn α) (o : Oracles α) (ns : Ns) (now : Int)
    (henc : ∀ a b : OrchKey α, okeyEq a b = (enc a == enc b)) (hon : c.orchCacheOn = true)
    (hsim : SimC enc val s.orch ns)
    (hfresh : ∀ e, lookup (enc (orchKey w c s t)) ns.items = some e → ns.ttl = 0 ∨ now - e.ts ≤ ns.ttl) :
    let k := enc (orchKey w c s t)
    let st := t2Stage w c s t o
    let r := ns.get now k
    (r.2.isSome = st.hit) ∧
    (st.hit = true → r.2 = some (val st.out) ∧ SimC enc val st.orch r.1) ∧
    (st.hit = false → ((ns.items.length : Int) + 1 ≤ ns.max) →
      SimC enc val st.orch (r.1.set now k (val st.out)).1 ∧ (r.1.set now k (val st.out)).2 = some 0) := by
  intro k st r
  cases hf : s.orch.find? (fun e => okeyEq e.1 (orchKey w c s t)) with
  | some p =>
    -- the composed model hits: the namespace holds the key too
    have hp : p ∈ s.orch := List.mem_of_find?_eq_some hf
    have hpk : enc p.1 = k := by
      have := List.find?_some hf
      rw [henc] at this
      exact eq_of_beq this
    have hk : k ∈ ns.items.map Entry.key := (hsim.1 k).2 ⟨p, hp, hpk⟩
    obtain ⟨e, he⟩ : ∃ e, lookup k ns.items = some e := by
      cases hl : lookup k ns.items with
      | some e => exact ⟨e, rfl⟩
      | none => exact absurd hk (lookup_none_iff.1 hl)
    obtain ⟨hget, hitems⟩ := C15_ttl_get_fresh_hits ns now k e he (hfresh e he)
    obtain ⟨hout, hhit, horch⟩ : st.out = p.2 ∧ st.hit = true ∧ st.orch = s.orch := t2Stage_hit w c s t o hon hf
    obtain ⟨hm, hek⟩ := lookup_some_mem he
    have hval : val p.2 = e.val := hsim.2 e hm p hp (by rw [hpk, hek])
    refine ⟨by rw [hhit, hget]; rfl, fun _ => ?_, fun h => absurd hhit (by rw [h]; exact Bool.false_ne_true)⟩
    exact ⟨by rw [hget, hout, hval], horch ▸ simC_touch hsim he hitems⟩
  | none =>
    -- the composed model misses: no entry under that key in the namespace either
    have hk : k ∉ ns.items.map Entry.key := by
      intro h
      obtain ⟨p, hp, hpk⟩ := (hsim.1 k).1 h
      have := List.find?_eq_none.1 hf p hp
      rw [henc] at this
      exact this (beq_iff_eq.2 hpk)
    have hget : ns.get now k = (ns, none) := get_miss (lookup_none_iff.2 hk)
    obtain ⟨_, hhit, horch⟩ : _ ∧ st.hit = false ∧ st.orch = s.orch ++ [(orchKey w c s t, st.out)] :=
      t2Stage_miss w c s t o hon hf
    refine ⟨by rw [hhit]; show (ns.get now k).2.isSome = false; rw [hget]; rfl,
      fun h => absurd h (by rw [hhit]; exact Bool.false_ne_true), fun _ hroom => ?_⟩
    have hwo : without k ns.items = ns.items := lookup_none_without (lookup_none_iff.2 hk)
    have hset := C15_ttl_set_no_eviction_when_room ns now k (val st.out) (by rw [hwo]; exact hroom)
    rw [show r = (ns, none) from hget]
    exact ⟨horch ▸ simC_insert hsim hk (hwo ▸ hset.1), hset.2⟩

/-- the empty caches correspond -/
theorem simC_init (max ttl : Int) : SimC enc val ([] : List (OrchKey α × Clem.T2.Out α)) (Ns.init max ttl) :=
  ⟨fun _ => ⟨fun h => (nomatch h), fun ⟨_, hp, _⟩ => (nomatch hp)⟩, fun _ he => (nomatch he)⟩

end AnyCarrier

end Clem.Compose
