/-
# C01 (composition) — several agents alternating on one state

`runTurnsMA` folds turns whose ctx carries different agent ids (`TurnIn.agent`) over ONE state: the store, the
version, the GEL store, the memory index and the caches are shared; the agent id reaches T2's owner scope, the
reflection entry ids, the snapshot's `agent` field / file name and every record.  Each turn of such a history IS a
composed turn of the world with that agent (`wFor`), started in a state reachable by the turns before it — so every
per-turn theorem of the composition applies verbatim.

Since the fix `C05_turn_key_context` the orchestrator's turn-level T2 cache key digests the turn's agent (with the
ids T1 touched, the memory index version and — hybrid on — the GEL edges): an entry stored by agent A's turn is never
served to agent B.  `C01_compose_agents_scope_cached` is the positive statement, cache ON included (on the tree before
the fix B was served A's hits — C05's findings `turn:agent` / `turn:owner_scope`).
-/
import Clem.Proofs.Compose
import Clem.Props.C01.ComposeSnap
import Clem.Props.C01.ComposeMemory

set_option linter.unusedSectionVars false

namespace Clem.Compose

section AnyCarrier
variable {α : Type} [Clem.T1.Num α] [Clem.T2.Num α] [Clem.T3.PyOrd α] [Clem.Py.Num α] [Clem.Py.NumGel α]
variable (w : World α) (c : Cfg α)

theorem wFor_none (t : TurnIn α) (h : t.agent = none) : wFor w t = w := by
  unfold wFor; rw [h]

theorem wFor_shared (t : TurnIn α) :
    (wFor w t).graphs = w.graphs ∧ (wFor w t).eps = w.eps ∧ (wFor w t).last = w.last ∧
    (wFor w t).reflFlag = w.reflFlag ∧ (wFor w t).agent = t.agent.getD w.agent := by
  unfold wFor
  cases t.agent <;> exact ⟨rfl, rfl, rfl, rfl, rfl⟩

theorem foldl_stepHistMA (ts : List (TurnIn α × Oracles α)) :
    ∀ h : Hist α, ts.foldl (stepHistMA w c) h =
      ⟨h.outs ++ (ts.foldl (stepHistMA w c) ⟨[], h.state⟩).outs, (ts.foldl (stepHistMA w c) ⟨[], h.state⟩).state⟩ :=
  foldl_stepW c (wFor w) ts

theorem runTurnsMA_nil (s : State α) : runTurnsMA w c s [] = ⟨[], s⟩ := rfl

theorem runTurnsMA_cons (s : State α) (t : TurnIn α × Oracles α) (ts : List (TurnIn α × Oracles α)) :
    runTurnsMA w c s (t :: ts) =
      ⟨runTurn (wFor w t.1) c s t.1 t.2 :: (runTurnsMA w c (runTurn (wFor w t.1) c s t.1 t.2).state ts).outs,
       (runTurnsMA w c (runTurn (wFor w t.1) c s t.1 t.2).state ts).state⟩ :=
  foldl_stepW_cons c (wFor w) s t ts

/-- the induction over a history of several agents -/
theorem runTurnsMA_inv {P : State α → Prop} (step : ∀ s t o, P s → P (nextState (wFor w t) c s t o)) {s : State α}
    (hs : P s) (ts : List (TurnIn α × Oracles α)) :
    P (runTurnsMA w c s ts).state ∧
      ∀ o ∈ (runTurnsMA w c s ts).outs, ∃ s' t, P s' ∧ t ∈ ts ∧ o = runTurn (wFor w t.1) c s' t.1 t.2 :=
  foldl_stepW_inv c (wFor w) step hs ts

/-- **one agent = the single-agent history**: when no turn names another agent, `runTurnsMA` is `runTurns` — every
theorem about `runTurns` is a theorem about these histories -/
theorem C01_compose_agents_single (ts : List (TurnIn α × Oracles α)) (h : ∀ t ∈ ts, t.1.agent = none) :
    ∀ s : State α, runTurnsMA w c s ts = runTurns w c s ts := by
  induction ts with
  | nil => intro s; rw [runTurnsMA_nil, runTurns_nil]
  | cons t r ih =>
    intro s
    rw [runTurnsMA_cons, runTurns_cons, wFor_none w t.1 (h t List.mem_cons_self),
      ih (fun t' ht' => h t' (List.mem_cons_of_mem _ ht'))]

/-- **each turn is a composed turn of its own agent's world** on a state the earlier turns (of whatever agents)
produced; the final state is the last turn's -/
theorem C01_compose_agents_step (ts : List (TurnIn α × Oracles α)) :
    ∀ (s : State α) (o : TurnOut α), o ∈ (runTurnsMA w c s ts).outs →
      ∃ (s' : State α) (t : TurnIn α × Oracles α), t ∈ ts ∧ o = runTurn (wFor w t.1) c s' t.1 t.2 := by
  intro s o h
  obtain ⟨s', t, _, ht, ho⟩ := (runTurnsMA_inv w c (P := fun _ => True) (fun _ _ _ _ => trivial) trivial ts).2 o h
  exact ⟨s', t, ht, ho⟩

/-- **owner scope follows the turn's agent** (orchestrator cache off, `k_retrieval ≥ 1`): under
`owner_scope = agent` every hit of a turn is owned by the agent of THAT turn, whoever ran the turns before; every hit
is visible under that agent's scope. -/
theorem C01_compose_agents_scope (s : State α) (ts : List (TurnIn α × Oracles α)) (hk : 1 ≤ c.k)
    (hc : c.orchCacheOn = false) :
    ∀ o ∈ (runTurnsMA w c s ts).outs, ∃ t ∈ ts,
      (∀ e ∈ o.t2.retrieved,
        Clem.T2.visible (Clem.T2.ownerForQuery c.scope (some (t.1.agent.getD w.agent))) e = true) ∧
      (c.scope = 1 → ∀ e ∈ o.t2.retrieved, e.owner = .str (t.1.agent.getD w.agent)) := by
  intro o ho
  obtain ⟨s', t, ht, rfl⟩ := C01_compose_agents_step w c ts s o ho
  refine ⟨t, ht, ?_⟩
  have hv := C01_compose_memory_visible (wFor w t.1) c s' [] t.1 t.2 hk hc
  rw [runTurns_nil] at hv
  have hvis := fun e he => (wFor_shared w t.1).2.2.2.2 ▸ (hv e he).2.1
  exact ⟨hvis, fun hs e he => owner_of_visible hs (hvis e he)⟩

/-- **per-agent snapshot**: the body a turn writes names that turn's agent (the file is `state_<that agent>.json`) and
the version / weights of the SHARED state after the turn -/
theorem C01_compose_agents_snapshot (s : State α) (ts : List (TurnIn α × Oracles α)) :
    ∀ o ∈ (runTurnsMA w c s ts).outs, ∀ b, o.snapBody = some b → ∃ t ∈ ts, ∃ kv, b = .obj kv ∧
      Clem.Py.JV.getD Clem.Snap.kAgent .null kv = .str (t.1.agent.getD w.agent) ∧
      Clem.Py.JV.aget Clem.Snap.kStore kv = some (Clem.Snap.exportStore (wToStore o.state.w)) := by
  intro o ho b hb
  obtain ⟨s', t, ht, rfl⟩ := C01_compose_agents_step w c ts s o ho
  obtain ⟨kv, hkv, _, _, _, _, _, hag, hst⟩ := C01_compose_snap_body (wFor w t.1) c s' t.1 t.2 b hb
  refine ⟨t, ht, kv, hkv, ?_, ?_⟩
  · rw [hag, (wFor_shared w t.1).2.2.2.2]
  · rw [hst, runTurn_state]

/-! ### the orchestrator cache keeps the agents apart (cache ON) -/

/-- `x` is the T2 model's answer for agent `a` (some oracles, some memory), or the empty answer -/
def T2GoodA (a : Str) (x : Clem.T2.Out α) : Prop :=
  x = emptyT2 c ∨ ∃ (o : Oracles α) (qo : QOracle α) (h : Clem.T2.HCfg α) (q : Clem.T2.QCfg α)
      (mem : List Clem.Refl.Written),
    x = Clem.T2.t2 (t2Cfg { w with agent := a } c o qo) c.tiers (withCos (epsAt w mem o) qo.cos) h q (t2K c)
          c.residualCap (gnodes w)

/-- every entry of the orchestrator's cache was computed for the agent its key names -/
def GoodStateA (s : State α) : Prop := ∀ e ∈ s.orch, T2GoodA w c e.1.2.agent e.2

theorem wFor_t2 (t : TurnIn α) (o : Oracles α) (qo : QOracle α) (mem : List Clem.Refl.Written) :
    t2Cfg (wFor w t) c o qo = t2Cfg { w with agent := (wFor w t).agent } c o qo ∧
    epsAt (wFor w t) mem o = epsAt w mem o ∧ gnodes (wFor w t) = gnodes w := by
  unfold wFor
  cases t.agent <;> exact ⟨rfl, rfl, rfl⟩

theorem fresh_goodA (t : TurnIn α) (o : Oracles α) (g : Clem.Gel.State α) (q : Str) (mem : List Clem.Refl.Written) :
    T2GoodA w c (wFor w t).agent ((t2Call (wFor w t) c o g q mem).getD (emptyT2 c)) := by
  unfold t2Call
  cases lookupQ o q with
  | none => exact .inl rfl
  | some qo =>
    refine .inr ⟨o, qo, hybOf c g, qualOf c qo, mem, ?_⟩
    obtain ⟨h1, h2, h3⟩ := wFor_t2 w c t o qo mem
    rw [← h1, ← h2, ← h3]
    rfl

theorem t2Stage_goodA (s : State α) (t : TurnIn α) (o : Oracles α) (hs : GoodStateA w c s) :
    T2GoodA w c (wFor w t).agent (t2Stage (wFor w t) c s t o).out ∧
    ∀ e ∈ (t2Stage (wFor w t) c s t o).orch, T2GoodA w c e.1.2.agent e.2 := by
  rcases t2Stage_cases (wFor w t) c s t o with ⟨e, he, hk, h1, _, h3⟩ | ⟨h1, _, h3⟩
  · -- a hit: the key of the entry served digests this turn's agent
    have hag : e.1.2.agent = (wFor w t).agent := (okeyEq_fields hk).2.1
    rw [h1, h3]
    exact ⟨hag ▸ hs e he, hs⟩
  · rw [h1]
    refine ⟨fresh_goodA w c t o _ _ _, fun e he => ?_⟩
    rcases h3 with h3 | h3 <;> rw [h3] at he
    · exact hs e he
    · rcases List.mem_append.1 he with h | h
      · exact hs e h
      · exact List.mem_singleton.1 h ▸ fresh_goodA w c t o _ _ _

theorem nextState_goodA (s : State α) (t : TurnIn α) (o : Oracles α) (hs : GoodStateA w c s) :
    GoodStateA w c (nextState (wFor w t) c s t o) := by
  intro e he
  rw [nextState_orch] at he
  rcases mem_orchNext (wFor w t) c s t o he with h | h
  · exact hs e h
  · exact h ▸ fresh_goodA w c t o _ _ _

/-- every turn of a multi-agent history runs on a state whose cache entries are all labelled with the right agent -/
theorem agents_step_good (ts : List (TurnIn α × Oracles α)) :
    ∀ (s : State α), GoodStateA w c s → ∀ o ∈ (runTurnsMA w c s ts).outs,
      ∃ (s' : State α) (t : TurnIn α × Oracles α), t ∈ ts ∧ GoodStateA w c s' ∧
        o = runTurn (wFor w t.1) c s' t.1 t.2 := by
  intro s hs o h
  obtain ⟨s', t, hg, ht, ho⟩ := (runTurnsMA_inv w c (nextState_goodA w c) hs ts).2 o h
  exact ⟨s', t, ht, hg, ho⟩

/-- **owner scope follows the turn's agent — orchestrator cache ON included.**  In every multi-agent history started
with an empty (or correctly labelled) turn-level cache, whatever `t4.cache` says: every hit of a turn is visible under
THAT turn's agent's owner scope, and under `owner_scope = agent` it is owned by that agent — a result cached by
another agent's turn is never served (the key digests the agent: fix `C05_turn_key_context`). -/
theorem C01_compose_agents_scope_cached (s : State α) (ts : List (TurnIn α × Oracles α)) (hk : 1 ≤ c.k)
    (hs : GoodStateA w c s) :
    ∀ o ∈ (runTurnsMA w c s ts).outs, ∃ t ∈ ts,
      (∀ e ∈ o.t2.retrieved,
        Clem.T2.visible (Clem.T2.ownerForQuery c.scope (some (t.1.agent.getD w.agent))) e = true) ∧
      (c.scope = 1 → ∀ e ∈ o.t2.retrieved, e.owner = .str (t.1.agent.getD w.agent)) := by
  intro o ho
  obtain ⟨s', t, ht, hg, rfl⟩ := agents_step_good w c ts s hs o ho
  refine ⟨t, ht, ?_⟩
  rw [runTurn_t2]
  unfold t2Of
  have hvis : ∀ e ∈ (t2Stage (wFor w t.1) c s' t.1 t.2).out.retrieved,
      Clem.T2.visible (Clem.T2.ownerForQuery c.scope (some (t.1.agent.getD w.agent))) e = true := by
    rw [← (wFor_shared w t.1).2.2.2.2]
    rcases (t2Stage_goodA w c s' t.1 t.2 hg).1 with h0 | ⟨o', qo, hh, qq, mem', h0⟩
    · rw [h0]
      intro e he
      cases he
    · rw [h0]
      intro e he
      exact ((Clem.T2.C11_t2_retrieved (t2Cfg { w with agent := (wFor w t.1).agent } c o' qo) c.tiers
        (withCos (epsAt w mem' o') qo.cos) hh qq (t2K c) c.residualCap (gnodes w) hk).2.2 e he).2.1
  exact ⟨hvis, fun hsc e he => owner_of_visible hsc (hvis e he)⟩

theorem goodStateA_of_empty (s : State α) (h : s.orch = []) : GoodStateA w c s := by
  intro e he; rw [h] at he; cases he

end AnyCarrier


end Clem.Compose
