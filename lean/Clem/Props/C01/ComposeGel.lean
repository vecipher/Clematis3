/-
# C01 (composition) — GEL inside the composed turn: C18's guarantees for every turn of every history

With `graph.enabled` the composed turn (`Clem/Model/Compose.lean`) runs `Clem.Gel.observe` on ALL hits T2 returned,
then (kill switch off, not a dry run) `Clem.Gel.tick` and the merge/split/promotion block before Apply.  The GEL
store after every turn is `Clem.Gel.run` of a list of C18 operations (`mem_outs_gel`), so C18's history theorems
apply to every turn of every history.  Weight clauses are stated at any linearly ordered field (as C18's).
-/
import Clem.Proofs.Compose
import Clem.Props.C18.Main

set_option linter.unusedSectionVars false

namespace Clem.Compose

section AnyCarrier
variable {α : Type} [Clem.T1.Num α] [Clem.T2.Num α] [Clem.T3.PyOrd α] [Clem.Py.Num α] [Clem.Py.NumGel α]
variable (w : World α) (c : Cfg α)

/-- What the turn hands to `observe_retrieval` (when it gets past the T2 boundary): every hit T2 returned (id and
score), in T2's order, with the turn id — not a prefix, not the used hits. -/
theorem C01_compose_gel_observes_all_hits (s : State α) (t : TurnIn α) (o : Oracles α)
    (hon : gelObsOn w c s t o = true) :
    gelObsOps w c s t o =
      [.observe ((runTurn w c s t o).t2.retrieved.map (fun e => (e.id, e.cos))) (some t.turnId)] := by
  unfold gelObsOps
  rw [if_pos hon]
  rfl

/-- The GEL store after a turn is C18's `run` of: the observation (graph.enabled, not a dry run, past the T2
boundary), then — only when the kill switch is off, the turn is not a dry run and did not yield at or before the T4
boundary — the tick and the maintenance operations. -/
theorem C01_compose_gel_turn (s : State α) (t : TurnIn α) (o : Oracles α) :
    (runTurn w c s t o).state.gel =
      Clem.Gel.run c.gel c.pw s.gel (gelObsOps w c s t o ++ gelTickOps w c s t o ++ gelMaintOps w c s t o) := rfl

/-- no tick and no maintenance in a turn that does not reach Apply -/
theorem C01_compose_gel_uncommitted (s : State α) (t : TurnIn α) (o : Oracles α) (h : commits w c s t o = false) :
    gelTickOps w c s t o = [] ∧ gelMaintOps w c s t o = [] := by
  -- the tick's gate is `graph.enabled` and the gates of a committing turn
  have ht : gelTickOn w c s t o = false := by
    unfold gelTickOn
    unfold commits committed at h
    rw [Bool.and_assoc, Bool.and_assoc, ← Bool.and_assoc c.t4Enabled, h, Bool.and_false]
  unfold gelTickOps gelMaintOps gelMaintOn
  rw [ht]
  exact ⟨rfl, rfl⟩

end AnyCarrier

section OrderedField
variable {α : Type} [Field α] [LinearOrder α] [IsStrictOrderedRing α]
variable [Clem.T1.Num α] [Clem.T2.Num α] [Clem.T3.PyOrd α]
variable (w : World α) (c : Cfg α)

/-- **C18, canonical keys.**  After every turn of every history started without a GEL store, every edge record
sits under the canonical key of its endpoints (`src ≤ dst`, `key = src→dst`), one record per key. -/
theorem C01_compose_gel_keys_canonical (s : State α) (ts : List (TurnIn α × Oracles α)) (h0 : s.gel = none) :
    ∀ o ∈ (runTurns w c s ts).outs, Clem.Gel.canonB (Clem.Gel.edgesOf o.state.gel) = true := by
  intro o ho
  obtain ⟨ops, he, _⟩ := mem_outs_gel w c ho
  rw [he, h0]
  exact Clem.Gel.C18_keys_canonical_history c.gel c.pw ops

/-- **C18, bounds.**  With `clamp_min ≤ 0 ≤ clamp_max` (the repaired validator's range) and Python's `**` obeying
`0 ≤ ½ ** x ≤ 1`, after every turn of every history every co-activation edge weight lies in
`[clamp_min, clamp_max]` … -/
theorem C01_compose_gel_bounded_coact (s : State α) (ts : List (TurnIn α × Oracles α)) (h0 : s.gel = none)
    (hpw : Clem.Gel.PowLaw c.pw) (hlo : c.gel.cmin ≤ 0) (hhi : 0 ≤ c.gel.cmax) :
    ∀ o ∈ (runTurns w c s ts).outs, Clem.Gel.boundedCoactB c.gel (Clem.Gel.edgesOf o.state.gel) = true := by
  intro o ho
  obtain ⟨ops, he, _⟩ := mem_outs_gel w c ho
  rw [he, h0]
  exact Clem.Gel.C18_bounded_coact_history c.gel c.pw hpw hlo hhi ops

/-- … and, with promotions off, EVERY edge weight does. -/
theorem C01_compose_gel_bounded (s : State α) (ts : List (TurnIn α × Oracles α)) (h0 : s.gel = none)
    (hpw : Clem.Gel.PowLaw c.pw) (hlo : c.gel.cmin ≤ 0) (hhi : 0 ≤ c.gel.cmax) (hp : c.doPromo = false) :
    ∀ o ∈ (runTurns w c s ts).outs, Clem.Gel.boundedB c.gel (Clem.Gel.edgesOf o.state.gel) = true := by
  intro o ho
  obtain ⟨ops, he, hn⟩ := mem_outs_gel w c ho
  rw [he, h0]
  exact Clem.Gel.C18_bounded_history c.gel c.pw hpw hlo hhi ops (fun p hm => absurd hm (hn hp p))

/-- **C18, gate.**  With `graph.enabled = false` no turn of any history touches (or creates) the GEL store. -/
theorem C01_compose_gel_gate_off (s : State α) (ts : List (TurnIn α × Oracles α)) (hoff : c.gel.enabled = false) :
    ∀ o ∈ (runTurns w c s ts).outs, o.state.gel = s.gel := by
  intro o ho
  obtain ⟨ops, he, _⟩ := mem_outs_gel w c ho
  rw [he]
  exact (Clem.Gel.C18_gate_off_identity c.gel c.pw s.gel hoff).2.2.2.2.2.2 ops

end OrderedField

end Clem.Compose
