/-
# C01 (composition) — the T2 rerank layers inside the composed turn

With `t2.hybrid.enabled` the T2 call of a turn reranks with the GEL store of the state (`hybOf c s.gel`: the edges
earlier turns' observations wrote).
With `t2.quality.enabled` fusion (BM25 oracle per query) and MMR (token-set oracle) run.  Whatever the layers do,
the retrieved list of every turn is a permutation of the core retrieval (C11), so C11's count / scope / threshold
guarantees (`C01_compose_retrieval`) hold for every rerank configuration.
-/
import Clem.Proofs.Compose

set_option linter.unusedSectionVars false

namespace Clem.Compose

section AnyCarrier
variable {α : Type} [Clem.T1.Num α] [Clem.T2.Num α] [Clem.T3.PyOrd α] [Clem.Py.Num α] [Clem.Py.NumGel α]
variable (w : World α) (c : Cfg α)

/-- The reranker of the turn's T2 stage reads the GEL edges of the state handed to the turn (one `GEdge` per stored
record, endpoints and weight as stored), never a failing layer. -/
theorem C01_compose_hybrid_reads_gel (s : State α) (t : TurnIn α) (o : Oracles α) (qo : QOracle α)
    (hq : lookupQ o (qOf w c s t) = some qo) (hc : c.orchCacheOn = false) :
    (runTurn w c s t o).t2 =
      Clem.T2.t2 (t2Cfg w c o qo) c.tiers (withCos (epsAt w s.mem o) qo.cos)
        { c.hyb with edges := (Clem.Gel.ensure s.gel).edges.map (fun e => ⟨e.src, e.dst, e.w⟩), fail := false }
        (qualOf c qo) (t2K c) c.residualCap (gnodes w) :=
  t2Of_of_miss w c s t o (t2Stage_off w c s t o hc).2.1 hq

/-- **C11, permutation.**  In every turn of every history (good initial cache) the retrieved list is a
permutation of the core retrieval result `pre` — the rerank layers (hybrid, fusion, MMR) only reorder. -/
theorem C01_compose_rerank_perm (s : State α) (ts : List (TurnIn α × Oracles α)) (hs : GoodState w c s) :
    ∀ o ∈ (runTurns w c s ts).outs, o.t2.retrieved.Perm (o.t2.pre.map (·.1)) := by
  intro o ho
  rcases outs_t2_good w c hs o ho with h0 | ⟨o', qo, hh, qq, mem', h0⟩ <;> rw [h0]
  · exact List.Perm.refl _
  · exact Clem.T2.C11_t2_retrieved_perm (t2Cfg w c o' qo) c.tiers (withCos (epsAt w mem' o') qo.cos) hh qq (t2K c)
      c.residualCap (gnodes w)

end AnyCarrier

end Clem.Compose
