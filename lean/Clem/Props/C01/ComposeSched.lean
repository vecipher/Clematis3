/-
# C01 (composition) — the scheduler inside the composed turn: C17's yield decision at the stage boundaries

With `scheduler.enabled` the composed turn (`Clem/Model/Compose.lean`) hands the slice budgets to T1 / T2 / T3
(`t1Cfg`, `t2K`, `sliceV`) and consults C17's `shouldYield` after T1, T2, the T3 plan, T4 and Apply (`boundaries`);
it returns at the first boundary whose decision fires (`yieldOf = Clem.Sched.firstYield`).  Logical clock: the
measured elapsed time is 0 ms in the model (see the model file).
-/
import Clem.Proofs.Compose
import Clem.Props.C17
import Clem.Props.C13.Plan

set_option linter.unusedSectionVars false

namespace Clem.Compose

section AnyCarrier
variable {α : Type} [Clem.T1.Num α] [Clem.T2.Num α] [Clem.T3.PyOrd α] [Clem.Py.Num α] [Clem.Py.NumGel α]
variable (w : World α) (c : Cfg α)

/-- **C17, first boundary.**  A turn that yields at boundary `st` with reason `r` has the scheduler on, the decision
fires at that boundary on the counters of the stages that ran (with that reason, which satisfies the documented
precedence table), and it fired at no earlier boundary. -/
theorem C01_compose_yield_first_boundary (s : State α) (t : TurnIn α) (o : Oracles α)
    (st : Clem.Sched.Stage) (r : Clem.Sched.YReason) (h : (runTurn w c s t o).yielded = some (st, r)) :
    ∃ b, c.sched = some b ∧ ∃ pre cons post, boundaries w c s t o = pre ++ (st, cons) :: post ∧
      Clem.Sched.shouldYield b cons = some r ∧ Clem.Sched.yieldSpecB b cons (some r) = true ∧
      ∀ p ∈ pre, Clem.Sched.shouldYield b p.2 = none := by
  rw [runTurn_yielded] at h
  unfold yieldOf at h
  cases hb : c.sched with
  | none => rw [hb] at h; cases h
  | some b =>
    rw [hb] at h
    exact ⟨b, rfl, Clem.Props.C17.C17_Turn_yield_first_boundary b _ st r h⟩

/-- scheduler off: no turn ever yields -/
theorem C01_compose_no_yield_sched_off (s : State α) (ts : List (TurnIn α × Oracles α)) (h : c.sched = none) :
    ∀ o ∈ (runTurns w c s ts).outs, o.yielded = none := by
  intro o ho
  obtain ⟨s', t, _, rfl⟩ := mem_outs w c ho
  rw [runTurn_yielded]; exact yieldOf_sched_off w c s' t.1 t.2 h

theorem yr_of_yield (s : State α) (t : TurnIn α) (o : Oracles α) (st : Clem.Sched.Stage) (r : Clem.Sched.YReason)
    (h : yieldOf w c s t o = some (st, r)) : yr w c s t o = stageRank st := by
  unfold yr; rw [h]

theorem reach_of_yield (s : State α) (t : TurnIn α) (o : Oracles α) (st : Clem.Sched.Stage) (r : Clem.Sched.YReason)
    (h : yieldOf w c s t o = some (st, r)) (k : Nat) : reach w c s t o k = decide (k < stageRank st) := by
  unfold reach; rw [yr_of_yield w c s t o st r h]

/-- the boundaries are passed in order -/
theorem reach_mono (s : State α) (t : TurnIn α) (o : Oracles α) {k k' : Nat} (hk : k ≤ k')
    (h : reach w c s t o k' = true) : reach w c s t o k = true :=
  decide_eq_true (Nat.lt_of_le_of_lt hk (of_decide_eq_true h))

/-- **Commits nothing.**  A turn that yields at any boundary other than the one after Apply hands nothing to the
store, writes no apply record, runs no GEL tick, and leaves the store weights and the version as they were. -/
theorem C01_compose_yield_commits_nothing (s : State α) (t : TurnIn α) (o : Oracles α)
    (st : Clem.Sched.Stage) (r : Clem.Sched.YReason) (h : (runTurn w c s t o).yielded = some (st, r))
    (hst : st ≠ .Apply) :
    (runTurn w c s t o).apply = none ∧ (runTurn w c s t o).storeCalls = [] ∧
    (runTurn w c s t o).gelTick = none ∧
    (runTurn w c s t o).state.w = s.w ∧ (runTurn w c s t o).state.ver = s.ver := by
  rw [runTurn_yielded] at h
  have hr : reach w c s t o 3 = false := by
    rw [reach_of_yield w c s t o st r h]
    cases st with
    | Apply => exact absurd rfl hst
    | _ => rfl
  have hc : ¬ commits w c s t o = true := by unfold commits; rw [hr, Bool.and_false]; exact Bool.false_ne_true
  have ht : ¬ gelTickOn w c s t o = true := by unfold gelTickOn; rw [hr, Bool.and_false]; exact Bool.false_ne_true
  rw [runTurn_apply, runTurn_storeCalls, runTurn_gelTick, runTurn_state, nextState_w, nextState_ver,
    if_neg hc, if_neg hc, if_neg hc, if_neg hc, if_neg ht]
  exact ⟨rfl, rfl, rfl, rfl, rfl⟩

/-- **No stage after the yield boundary.**  Yield after T1: T2 did not run (no t2 record, no `t2_semantic` call, the
orchestrator cache untouched), no GEL operation, no plan ops, no T4.  Yield after T2: no GEL observation, no plan
ops, no T4, at most the one T2 call.  Yield after the T3 plan: no `rag_once` / speak / T4 (at most the one T2 call). -/
theorem C01_compose_yield_no_later_stage (s : State α) (t : TurnIn α) (o : Oracles α)
    (st : Clem.Sched.Stage) (r : Clem.Sched.YReason) (h : (runTurn w c s t o).yielded = some (st, r)) :
    (st = .T1 → (runTurn w c s t o).t2Ran = false ∧ (runTurn w c s t o).t2Calls = 0 ∧
                (runTurn w c s t o).state.orch = s.orch ∧ (runTurn w c s t o).state.gel = s.gel) ∧
    ((st = .T1 ∨ st = .T2) → (runTurn w c s t o).gelObs = none) ∧
    ((st = .T1 ∨ st = .T2 ∨ st = .T3) →
        (runTurn w c s t o).t4 = none ∧ (runTurn w c s t o).ops = [] ∧ (runTurn w c s t o).t2Calls ≤ 1) := by
  rw [runTurn_yielded] at h
  have hr := reach_of_yield w c s t o st r h
  refine ⟨?_, ?_, ?_⟩
  · rintro rfl
    have r0 : reach w c s t o 0 = false := hr 0
    have r1 : reach w c s t o 1 = false := hr 1
    have r2 : reach w c s t o 2 = false := hr 2
    have r3 : reach w c s t o 3 = false := hr 3
    refine ⟨r0, ?_, ?_, ?_⟩
    · rw [runTurn_t2Calls, r0, r2]; rfl
    · rw [runTurn_state, nextState_orch]; unfold orchNext; rw [r0]; rfl
    · rw [runTurn_state, nextState_gel]
      unfold gelOps gelObsOps gelTickOps gelMaintOps gelMaintOn gelObsOn gelTickOn
      rw [r1, r3]
      simp only [Bool.and_false, Bool.false_and, Bool.false_eq_true, if_false, List.append_nil]
      rfl
  · intro h12
    have r1 : reach w c s t o 1 = false := by rcases h12 with rfl | rfl <;> exact hr 1
    rw [runTurn_gelObs]; unfold gelObsOn; rw [r1, Bool.and_false]; rfl
  · intro h123
    have r2 : reach w c s t o 2 = false := by rcases h123 with rfl | rfl | rfl <;> exact hr 2
    rw [runTurn_t4, runTurn_ops, runTurn_t2Calls, r2, Bool.and_false]
    refine ⟨rfl, rfl, Nat.add_le_add (b := 1) (d := 0) ?_ (Nat.le_refl 0)⟩
    split <;> decide

/-- Logical budgets: `wall_ms` absent or positive, `quantum_ms` positive (the validator's ranges; 20 is the default of
`_derive_budgets`), elapsed time 0. -/
def LogicalBudgets (b : Clem.Sched.Budgets) : Prop :=
  (∀ wl, b.wall = some wl → 0 < wl) ∧ 0 < b.quantum.getD 20

theorem shouldYield_consMs {b : Clem.Sched.Budgets} (hb : LogicalBudgets b) :
    Clem.Sched.shouldYield b consMs = none := by
  obtain ⟨hw, hq⟩ := hb
  have hwall : Clem.Sched.wallHit b consMs = false := by
    unfold Clem.Sched.wallHit Clem.Sched.elapsed consMs
    cases hwl : b.wall with
    | none => rfl
    | some wl =>
      have := hw wl hwl
      simp only [Option.getD_some, ge_iff_le, decide_eq_false_iff_not, not_le]
      exact this
  have hh : ∀ x, Clem.Sched.hitEq x (none : Option Int) = false := by intro x; cases x <;> rfl
  have hq' : decide (Clem.Sched.elapsed consMs ≥ b.quantum.getD 20) = false := by
    unfold Clem.Sched.elapsed consMs
    simp only [Option.getD_some, ge_iff_le, decide_eq_false_iff_not, not_le]
    exact hq
  unfold Clem.Sched.shouldYield
  rw [hwall, hq']
  simp [consMs, hh]

/-- **Under logical budgets a turn yields only after T1, T2 or the T3 plan** — never at the T4 / Apply boundaries,
whose counters carry nothing but the elapsed time — **and therefore a yielded turn commits nothing.** -/
theorem C01_compose_logical_yield (s : State α) (t : TurnIn α) (o : Oracles α) (b : Clem.Sched.Budgets)
    (hs : c.sched = some b) (hb : LogicalBudgets b)
    (st : Clem.Sched.Stage) (r : Clem.Sched.YReason) (h : (runTurn w c s t o).yielded = some (st, r)) :
    (st = .T1 ∨ st = .T2 ∨ st = .T3) ∧
    (runTurn w c s t o).apply = none ∧ (runTurn w c s t o).storeCalls = [] ∧
    (runTurn w c s t o).state.w = s.w ∧ (runTurn w c s t o).state.ver = s.ver := by
  obtain ⟨b', hb', pre, cons, post, hl, hsy, _, _⟩ := C01_compose_yield_first_boundary w c s t o st r h
  rw [hs] at hb'; cases hb'
  have hmem : (st, cons) ∈ boundaries w c s t o := by rw [hl]; simp
  have hst : st = .T1 ∨ st = .T2 ∨ st = .T3 := by
    unfold boundaries at hmem
    simp only [List.mem_append, List.mem_cons, List.mem_ite_nil_right, Prod.mk.injEq, List.not_mem_nil,
      or_false] at hmem
    rcases hmem with ((⟨h1, _⟩ | ⟨h1, _⟩) | ⟨_, h1, _⟩) | ⟨_, ⟨_, hc⟩ | ⟨_, hc⟩⟩
    · exact .inl h1
    · exact .inr (.inl h1)
    · exact .inr (.inr h1)
    -- the counters of the T4 and Apply boundaries carry nothing but the elapsed time
    all_goals rw [hc, shouldYield_consMs hb] at hsy; cases hsy
  have hne : st ≠ .Apply := by rcases hst with h | h | h <;> subst h <;> decide
  have := C01_compose_yield_commits_nothing w c s t o st r h hne
  exact ⟨hst, this.1, this.2.1, this.2.2.2.1, this.2.2.2.2⟩

/-! ## per-slice consumption stays within the slice budgets (lifts of the C12 / C11 / C13 clamps) -/

theorem imax_mono_right (a : Int) {b b' : Int} (h : b ≤ b') : Clem.T1.imax a b ≤ Clem.T1.imax a b' := by
  rw [Clem.T1.imax_eq_max, Clem.T1.imax_eq_max]
  exact max_le_max_left a h

/-- T1: every per-graph run pops at most `max 0 t1_pops` and explores at most `max 0 t1_iters` layers (per graph; the
totals of a turn over all its graphs are bounded in `C01_compose_slice_t1_total`). -/
theorem C01_compose_slice_t1 (b : Clem.Sched.Budgets) (hs : c.sched = some b) (g : Clem.T1.Graph α) (text : Str) :
    (∀ p, b.t1Pops = some p → ((Clem.T1.oneGraph (t1Cfg c) g text).pops : Int) ≤ Clem.T1.imax 0 p) ∧
    (∀ i, b.t1Iters = some i → (Clem.T1.oneGraph (t1Cfg c) g text).iters ≤ Clem.T1.imax 0 i) := by
  have hb := Clem.T1.C12_budgets (t1Cfg c) g text
  unfold Clem.T1.budgetOk at hb
  simp only [Bool.and_eq_true, decide_eq_true_eq] at hb
  have hcfg : t1Cfg c = { c.t1 with sliceIters := b.t1Iters, slicePops := b.t1Pops } := by
    unfold t1Cfg; rw [hs]
  -- the slice budget enters the effective cap through `imin`: the stage's own clamp is at least as tight
  constructor
  · intro p hp
    have : Clem.T1.effQueue (t1Cfg c) = Clem.T1.imin c.t1.queueBudget p := by
      rw [hcfg]; unfold Clem.T1.effQueue; rw [hp]
    exact Int.le_trans hb.1.1 (this ▸ imax_mono_right 0 (Clem.T1.imin_le_right _ _))
  · intro i hi
    have : Clem.T1.effLayers (t1Cfg c) = Clem.T1.imin (Clem.T1.imin c.t1.iterCapLayers c.t1.iterCap) i := by
      rw [hcfg]; unfold Clem.T1.effLayers; rw [hi]
    exact Int.le_trans hb.1.2 (this ▸ imax_mono_right 0 (Clem.T1.imin_le_right _ _))

/-- T2: in every turn of every history at most `max 0 t2_k` hits are used downstream (fresh or cached results). -/
theorem C01_compose_slice_t2 (s : State α) (ts : List (TurnIn α × Oracles α)) (hg : GoodState w c s)
    (b : Clem.Sched.Budgets) (hs : c.sched = some b) (k : Int) (hk : b.t2K = some k) :
    ∀ o ∈ (runTurns w c s ts).outs, o.t2.used.length ≤ (max 0 k).toNat := by
  have hk' : t2K c = some k := by unfold t2K; rw [hs]; exact hk
  intro o ho
  rcases outs_t2_good w c hg o ho with h0 | ⟨o', qo, hh, qq, mem', h0⟩ <;> rw [h0]
  · exact Nat.zero_le _
  · rw [Clem.T2.C11_used_is_take, hk']
    exact List.length_take_le _ _

/-- T3: the stock planner emits at most `max 0 (min max_ops_per_turn t3_ops)` operations. -/
theorem C01_compose_slice_t3 (s : State α) (t : TurnIn α) (o : Oracles α) (b : Clem.Sched.Budgets)
    (hs : c.sched = some b) (k : Int) (hk : b.t3Ops = some k) (hh : t.hook = false) :
    ((runTurn w c s t o).planOps0.length : Int) ≤ max 0 (min c.maxOps k) := by
  show (((plan0Of w c s t o).ops.length : Nat) : Int) ≤ _
  rw [plan0Of_ops, hh, if_neg Bool.false_ne_true, List.append_nil]
  split
  · have hc : Clem.T3.capsOps (bundleOf w c s t o) = min c.maxOps k := by
      show min c.maxOps (match sliceV c with | .int i => i | _ => c.maxOps) = _
      unfold sliceV; simp only [hs, hk]
    exact hc ▸ Clem.Props.C13.C13_delib_cap (bundleOf w c s t o)
  · exact Int.le_max_left 0 _

end AnyCarrier

end Clem.Compose
