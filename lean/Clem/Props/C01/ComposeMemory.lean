/-
# C01 (composition) — memory growth is visible to retrieval

`write_reflection_entries` appends the turn's reflection entries to the memory index (`InMemoryIndex.add`: append,
version + 1) under the owner literal `"agent"`.  The composed model keeps them as state (`State.mem`, write order) and
every T2 call of a later turn — the stage and `rag_once`'s second retrieval — runs C11's model on

    epsAt w s.mem o = w.eps ++ zipWith memEp s.mem o.memEps

i.e. the initial episodes followed by everything written on EARLIER turns (this turn's own entries are written by the
tail, after both calls).  The real T2 stage cache and (since the fix `C05_turn_key_context`) the orchestrator's turn
cache carry the index version in their keys, so neither serves a list computed on a shorter index; what a hit of the
turn cache returns is still the result under the EARLIER turn's oracles (`ComposeTransparent.lean` has the coherence
condition), so the "exactly" statements here are made with `orchCacheOn = false`.
-/
import Clem.Proofs.Compose
import Clem.Props.C01.ComposeRefl

set_option linter.unusedSectionVars false

namespace Clem.Compose

section AnyCarrier
variable {α : Type} [Clem.T1.Num α] [Clem.T2.Num α] [Clem.T3.PyOrd α] [Clem.Py.Num α] [Clem.Py.NumGel α]
variable (w : World α) (c : Cfg α)

theorem nextState_mem (s : State α) (t : TurnIn α) (o : Oracles α) :
    (nextState w c s t o).mem = s.mem ++ (runTurn w c s t o).refl.written := rfl

/-- **the index over a history**: after any history the written part of the memory index is what it was before,
followed by the entries each turn's tail wrote, turn by turn in order (append-only; nothing else touches it) -/
theorem C01_compose_memory_history (ts : List (TurnIn α × Oracles α)) :
    ∀ s : State α, (runTurns w c s ts).state.mem = s.mem ++ (runTurns w c s ts).outs.flatMap (·.refl.written) := by
  induction ts with
  | nil => intro s; simp [runTurns_nil]
  | cons t r ih =>
    intro s
    rw [runTurns_cons]
    simp only [List.flatMap_cons]
    rw [ih, runTurn_state, nextState_mem, List.append_assoc]

/-- the counter of C19's growth theorem is the length of that list -/
theorem C01_compose_memory_count (ts : List (TurnIn α × Oracles α)) :
    ∀ s : State α, (runTurns w c s ts).state.memN + s.mem.length = s.memN + (runTurns w c s ts).state.mem.length := by
  intro s
  refine (runTurns_inv w c (P := fun s' => s'.memN + s.mem.length = s.memN + s'.mem.length)
    (fun s' t o h => ?_) rfl ts).1
  rw [nextState_memN, nextState_mem, runTurn_refl, List.length_append]
  omega

/-- a written entry sits in the index under the owner literal `"agent"`, with the text the tail wrote and a vector
iff the writer embedded it -/
theorem memEp_fields (wr : Clem.Refl.Written) (oe : Clem.T2.Ep α) :
    (memEp wr oe).owner = .str sAgentLit ∧ (memEp wr oe).text = wr.text ∧ (memEp wr oe).hasVec = wr.vec ∧
    (memEp wr oe).id = oe.id := ⟨rfl, rfl, rfl, rfl⟩

/-- **what turn k's retrieval reads** (orchestrator cache off): C11's stage model on exactly the initial episodes
followed by the entries written on the turns before k — `pre`'s tails — and nothing of turn k's own tail. -/
theorem C01_compose_memory_index (s : State α) (pre : List (TurnIn α × Oracles α)) (t : TurnIn α) (o : Oracles α)
    (qo : QOracle α) (hc : c.orchCacheOn = false)
    (hq : lookupQ o (qOf w c (runTurns w c s pre).state t) = some qo) :
    (runTurn w c (runTurns w c s pre).state t o).t2 =
      Clem.T2.t2 (t2Cfg w c o qo) c.tiers
        (withCos (w.eps ++ List.zipWith memEp (s.mem ++ (runTurns w c s pre).outs.flatMap (·.refl.written)) o.memEps)
          qo.cos)
        (hybOf c (runTurns w c s pre).state.gel) (qualOf c qo) (t2K c) c.residualCap (gnodes w) := by
  rw [← C01_compose_memory_history]
  exact t2Of_of_miss w c _ t o (t2Stage_off w c _ t o hc).2.1 hq

theorem mem_withCos {es : List (Clem.T2.Ep α)} {cs : List α} {e : Clem.T2.Ep α} (h : e ∈ withCos es cs) :
    ∃ e0 ∈ es, e.owner = e0.owner ∧ e.id = e0.id ∧ e.text = e0.text := by
  induction es generalizing cs with
  | nil => simp [withCos] at h
  | cons a r ih =>
    -- whatever `cs` is, the head is `a` with another cosine and the tail is `withCos r` of the rest
    obtain ⟨x, cs', hw⟩ : ∃ x cs', withCos (a :: r) cs = { a with cos := x } :: withCos r cs' := by
      cases cs <;> exact ⟨_, _, rfl⟩
    rw [hw] at h
    rcases List.mem_cons.1 h with h | h
    · exact ⟨a, List.mem_cons_self, by rw [h], by rw [h], by rw [h]⟩
    · obtain ⟨e0, he0, hh⟩ := ih h
      exact ⟨e0, List.mem_cons_of_mem _ he0, hh⟩

theorem mem_zipWith_memEp {m : List Clem.Refl.Written} {oes : List (Clem.T2.Ep α)} {e : Clem.T2.Ep α}
    (h : e ∈ List.zipWith memEp m oes) : ∃ wr ∈ m, e.owner = .str sAgentLit ∧ e.text = wr.text := by
  induction m generalizing oes with
  | nil => simp at h
  | cons a r ih =>
    cases oes with
    | nil => simp at h
    | cons x xs =>
      simp only [List.zipWith_cons_cons, List.mem_cons] at h
      rcases h with h | h
      · exact ⟨a, by simp, by rw [h]; rfl, by rw [h]; rfl⟩
      · obtain ⟨wr, hwr, hh⟩ := ih h
        exact ⟨wr, List.mem_cons_of_mem _ hwr, hh⟩

/-- **retrieval on turn k sees exactly the initial episodes plus the entries written on turns < k that pass the
owner scope** (orchestrator cache off, `k_retrieval ≥ 1`): every hit is (up to its cosine) an initial episode or an
entry one of the earlier tails wrote, is visible under the querying agent's scope and passes the threshold; and a hit
owned by the literal `"agent"` — every reflection entry is — can only appear under `owner_scope = any`, or under
`owner_scope = agent` for an agent whose id is that literal; never under `world`. -/
theorem C01_compose_memory_visible (s : State α) (pre : List (TurnIn α × Oracles α)) (t : TurnIn α) (o : Oracles α)
    (hk : 1 ≤ c.k) (hc : c.orchCacheOn = false) :
    ∀ e ∈ (runTurn w c (runTurns w c s pre).state t o).t2.retrieved,
      ((∃ e0 ∈ w.eps, e.owner = e0.owner ∧ e.id = e0.id ∧ e.text = e0.text) ∨
       (∃ wr ∈ s.mem ++ (runTurns w c s pre).outs.flatMap (·.refl.written),
          e.owner = .str sAgentLit ∧ e.text = wr.text)) ∧
      Clem.T2.visible (Clem.T2.ownerForQuery c.scope (some w.agent)) e = true ∧ Clem.T2.passes c.θ e = true ∧
      (e.owner = .str sAgentLit → c.scope ≠ 2 ∧ (c.scope = 1 → w.agent = sAgentLit)) := by
  intro e he
  cases hq : lookupQ o (qOf w c (runTurns w c s pre).state t) with
  | none =>
    -- no oracle entry for the query: the stage returns the empty result
    have h0 := (t2Stage_off w c (runTurns w c s pre).state t o hc).1
    unfold t2Call at h0
    rw [hq] at h0
    rw [runTurn_t2, show t2Of w c (runTurns w c s pre).state t o = _ from h0] at he
    exact nomatch he
  | some qo =>
    rw [C01_compose_memory_index w c s pre t o qo hc hq] at he
    obtain ⟨hin, hvis, hpass, _⟩ := (Clem.T2.C11_t2_retrieved _ _ _ _ _ _ _ _ hk).2.2 e he
    have hvis' : Clem.T2.visible (Clem.T2.ownerForQuery c.scope (some w.agent)) e = true := hvis
    refine ⟨?_, hvis', hpass, ?_⟩
    · obtain ⟨e0, he0, ho, hi, ht⟩ := mem_withCos hin
      rcases List.mem_append.1 he0 with h0 | h0
      · exact Or.inl ⟨e0, h0, ho, hi, ht⟩
      · obtain ⟨wr, hwr, how, htx⟩ := mem_zipWith_memEp h0
        exact Or.inr ⟨wr, hwr, ho.trans how, ht.trans htx⟩
    · intro how
      constructor
      · intro h2
        unfold Clem.T2.visible Clem.T2.ownerForQuery at hvis'
        rw [how, h2, if_neg (by decide), if_pos (by decide)] at hvis'
        exact absurd hvis' (by decide)
      · intro h1
        exact Clem.T2.Owner.str.inj ((owner_of_visible h1 hvis').symm.trans how)

end AnyCarrier

end Clem.Compose
