/-
C13 — Planning and speaking stay within caps; untrusted plans are sanitised.

  Clem/Props/C13/Plan.lean      deliberate: op cap, Speak first + intent by thresholds (NaN ⇒ question),
                                retrieve-iff / edit-only-if, monotonicity in the score
  Clem/Props/C13/Rag.lean       rag_once: ≤ 1 retrieve call (0 when used), cap + Speak first for the refined plan;
                                T2 invocations per turn ≤ 2 and ≤ 1 + max 0 max_rag_loops
  Clem/Props/C13/Speak.lean     token budget of speak / llm_speak down to str.split / " ".join; max_tokens=0 quirk
  Clem/Props/C13/TurnLine.lean  the line of a turn (`_sanitize_utterance ∘ speak`) stays within the budget, over the regenerated
                                table of utterance rewrite rules
  Clem/Props/C13/Sanitize.lean  parse_and_validate: totality, soundness, schema/enforcement agreement
  Clem/Props/C13/Assemble.lean  the caps of the ctx / config reach the planner: deliberate and rag_once after assemble_bundle

`Delib_pure` is definitional: `deliberate : Bundle α → List Op` is a function of the bundle alone; that the Python
function does not mutate its argument is a monitor on the real code (harness `no_mutation`, `deterministic`).
-/
import Clem.Props.C13.Plan
import Clem.Props.C13.Rag
import Clem.Props.C13.Speak
import Clem.Props.C13.Sanitize
import Clem.Props.C13.TurnLine
import Clem.Props.C13.Assemble

namespace Clem.Props.C13
open Clem.T3 Clem.Gen.T3Consts

/-- literal defaults the model and the driver use are the ones in the source (regenerated table) -/
theorem C13_planner_defaults :
    defaultOps = 3 ∧ bundleDefaultMaxOps = 3 ∧ forwardedSliceKeys = [[116, 51, 95, 111, 112, 115]] ∧ defaultTokens = 256 ∧ defaultKRetrieval = 64 ∧ Clem.Gen.T3Consts.speakDefaultTokens = [Clem.T3.speakDefaultTokens] ∧
    defaultTauHighBits = 4605380978949069210 ∧ defaultTauLowBits = 4600877379321698714 ∧
    defaultEpsEditBits = 4591870180066957722 := by decide +kernel

end Clem.Props.C13
