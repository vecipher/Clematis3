/-
Model of `clematis/engine/util/lru_bytes.py:LRUBytes` (entry- and byte-bounded LRU).

Import-free and executable: the driver runs exactly these definitions, the
theorems in `Clem/Props/C15/LruBytes.lean` are about exactly these definitions.

State representation: the Python object keeps a deque `_q` of keys (LRU → MRU), a
dict `_map : key ↦ (value, cost)` and a running total `_bytes`.  The deque holds
every key of the dict exactly once, so the pair (deque, dict) is the list of
entries in deque order; that list is `items`.  `bytes` is the *running* counter
as the code maintains it (decremented / incremented step by step) – that it
equals the sum of the costs is a theorem, not a definition.

Caps are `Nat` (the code does `int(x or 0)`; negative caps are outside every
validated configuration and make the Python loop pop from an empty deque).
Keys and values are `Nat` (the harness maps hashable keys / values to integers).
-/
namespace Clem.LruBytes

structure Entry where
  key : Nat
  val : Nat
  cost : Nat
deriving Repr, DecidableEq, Inhabited

structure State where
  maxE : Nat
  maxB : Nat
  items : List Entry
  bytes : Int
deriving Repr, DecidableEq, Inhabited

def init (maxE maxB : Nat) : State := ⟨maxE, maxB, [], 0⟩

def lookup (k : Nat) (l : List Entry) : Option Entry := l.find? (fun e => e.key == k)

def without (k : Nat) (l : List Entry) : List Entry := l.filter (fun e => e.key != k)

def sumCost (l : List Entry) : Nat := (l.map Entry.cost).sum

/-- `get`: value if present, key moved to the MRU end. -/
def get (s : State) (k : Nat) : State × Option Nat :=
  match lookup k s.items with
  | none => (s, none)
  | some e => ({ s with items := without k s.items ++ [e] }, some e.val)

/-- The `while` loop of `put`: pop from the LRU side while either cap is exceeded.
`t` is `target_bytes`; returns remaining items, final `t`, and the evicted entries
in eviction order.  On `[]` the Python loop would raise `IndexError` if its
condition still held; `Props/C15.lean` (`evict_nil_unreachable`) shows it cannot. -/
def evictLoop (maxE maxB : Nat) : List Entry → Int → List Entry × Int × List Entry
  | [], t => ([], t, [])
  | e :: es, t =>
    if (0 < maxE ∧ maxE < (e :: es).length) ∨ (0 < maxB ∧ (maxB : Int) < t) then
      let r := evictLoop maxE maxB es (t - e.cost)
      (r.1, r.2.1, e :: r.2.2)
    else (e :: es, t, [])

/-- `_bytes` after the old cost of `k` (if cached) has been subtracted. -/
def bytesWithout (s : State) (k : Nat) : Int :=
  match lookup k s.items with
  | some e => s.bytes - e.cost
  | none => s.bytes

/-- `put key value cost`; returns the new state and the evicted entries (the code
returns `(len evicted, Σ cost evicted)` and calls `on_evict` once per entry, in
this order). -/
def put (s : State) (k v : Nat) (c : Int) : State × List Entry :=
  if s.maxE = 0 ∧ s.maxB = 0 then (s, [])
  else
    let c := c.toNat
    if 0 < s.maxB ∧ s.maxB < c then (s, [])
    else
      let bytes0 : Int := bytesWithout s k
      let items0 := without k s.items ++ [⟨k, v, c⟩]
      let r := evictLoop s.maxE s.maxB items0 (bytes0 + c)
      ({ s with items := r.1, bytes := r.2.1 }, r.2.2)

def clear (s : State) : State := { s with items := [], bytes := 0 }

def contains (s : State) (k : Nat) : Bool :=
  (lookup k s.items).isSome && (decide (0 < s.maxE) || decide (0 < s.maxB))

inductive Op where
  | get (k : Nat)
  | put (k v : Nat) (c : Int)
  | clear
deriving Repr, DecidableEq

def step (s : State) : Op → State
  | .get k => (get s k).1
  | .put k v c => (put s k v c).1
  | .clear => clear s

def run (s : State) (ops : List Op) : State := ops.foldl step s

/-- The invariant as a decidable monitor (evaluated on the implementation's
observable state by the harness, proved of every reachable model state). -/
def invB (s : State) : Bool :=
  decide ((s.items.map Entry.key).Nodup) &&
  decide (s.bytes = (sumCost s.items : Int)) &&
  (s.maxE == 0 || decide (s.items.length ≤ s.maxE)) &&
  (s.maxB == 0 || decide (s.bytes ≤ (s.maxB : Int))) &&
  (!(s.maxE == 0 && s.maxB == 0) || s.items.isEmpty)

end Clem.LruBytes
