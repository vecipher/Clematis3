import Clem.Proofs.T1
import Clem.Proofs.Fold

/-!
The run of one graph in the T1 model as a sequence of atomic steps.  Apart from heap pops the state
changes only by the kinds of `Step` below (seeding included); `finalSt_induct` says that a predicate
that holds of the empty state and is kept by heap pops and by every `Step` holds when the run ends, so
each invariant of the run is checked against the atomic steps only, never against `seedStep` / `gate` /
`relaxEdge` / `pushOrHit` as wholes.
-/

namespace Clem.T1
open Num

variable {α : Type} [Num α]
set_option linter.unusedSectionVars false

/-- `st2` differs from `st` at most in `layersProcessed`, `visited`, `visitedEv`. -/
def sameCore (st st2 : St α) : Prop :=
  st2 = { st with layersProcessed := st2.layersProcessed, visited := st2.visited,
                  visitedEv := st2.visitedEv }

theorem sameCore_refl (st : St α) : sameCore st st := rfl

def Ev.isPop : Ev α → Bool
  | .pop _ _ => true
  | _ => false
def Ev.isRelax : Ev α → Bool
  | .relax _ => true
  | _ => false
def Ev.isRadius : Ev α → Bool
  | .radiusSkip _ _ _ => true
  | _ => false
def Ev.isLayer : Ev α → Bool
  | .layerSkip _ _ _ => true
  | _ => false
def Ev.isNodeHit : Ev α → Bool
  | .nodeHitPop _ _ => true
  | .nodeHitPush _ _ => true
  | _ => false
def Ev.isDedup : Ev α → Bool
  | .dedupHit _ => true
  | _ => false
def Ev.isVisitedSkip : Ev α → Bool
  | .visitedSkip _ => true
  | _ => false

/-- the most recent pop in a log (newest first): the node being expanded and the activation popped with it -/
def lastPop : List (Ev α) → Option (Nat × α)
  | [] => none
  | Ev.pop u w :: _ => some (u, w)
  | Ev.seed _ :: r => lastPop r
  | Ev.relax _ :: r => lastPop r
  | Ev.visitedSkip _ :: r => lastPop r
  | Ev.layerStop _ :: r => lastPop r
  | Ev.nodeHitPop _ _ :: r => lastPop r
  | Ev.expand _ _ :: r => lastPop r
  | Ev.radiusSkip _ _ _ :: r => lastPop r
  | Ev.layerSkip _ _ _ :: r => lastPop r
  | Ev.epsSkip _ _ _ _ :: r => lastPop r
  | Ev.nodeHitPush _ _ :: r => lastPop r
  | Ev.dedupHit _ :: r => lastPop r
  | Ev.push _ _ _ :: r => lastPop r

/-- The test that has just been made when the loop records `e` without touching queue, accumulator or
distances.  (Seeds, pops, relaxations and pushes are not recorded this way.) -/
def LogOK (c : Cfg α) (st : St α) : Ev α → Prop
  | .visitedSkip u => visitedHit st.visited u = true
  | .layerStop _ => True
  | .nodeHitPop u a => a = accGet st.acc u ∧ le c.nodeBudget (abs a) = true
  | .expand u a => a = accGet st.acc u ∧ le c.nodeBudget (abs a) = false
  | .radiusSkip _ _ d => (d : Int) > c.radiusCap
  | .layerSkip _ _ d => (d : Int) > effLayers c
  | .epsSkip _ _ _ x => lt (abs x) c.eps = true
  | .nodeHitPush v a => a = accGet st.acc v ∧ lt (abs a) c.nodeBudget = false ∧
      ∃ l r', st.evs = Ev.relax l :: r' ∧ l.dst = v
  | .dedupHit v => ringHit st.ring v = true
  | .seed _ | .pop _ _ | .relax _ | .push _ _ _ => False

/-- record `e`; the hit counters go up according to the class of `e` -/
def logged (st : St α) (e : Ev α) : St α :=
  { st with
    radiusHits := st.radiusHits + (if e.isRadius then 1 else 0)
    layerHits := st.layerHits + (if e.isLayer then 1 else 0)
    nodeHits := st.nodeHits + (if e.isNodeHit then 1 else 0)
    dedupHits := st.dedupHits + (if e.isDedup then 1 else 0)
    evs := e :: st.evs }

inductive Step (c : Cfg α) (g : Graph α) (seeds : List Nat) : St α → St α → Prop
  /-- one seed: accumulator, distance and log entry; queued unless the dedupe ring holds it -/
  | seed {st : St α} (nid : Nat) (pq : List (Item α)) (ring : Option (List Nat)) : nid ∈ seeds →
      (ringHit st.ring nid = true ∧ pq = st.pq ∧ ring = st.ring ∨
       ringHit st.ring nid = false ∧ pq = (pushCap (effFrontier c) st.pq ⟨neg (abs one), nid, one⟩).1 ∧
         ring = ringAddIf c.dedupeWindow.toNat st.ring nid) →
      Step c g seeds st { st with
        pq := pq, ring := ring, acc := accAdd st.acc nid one, dist := distSet st.dist nid 0,
        maxDelta := pymax st.maxDelta (abs one), evs := Ev.seed nid :: st.evs }
  /-- the seeding loop's local counters are stored; the dedupe one was set only on a ring hit -/
  | tally {st : St α} (d : Nat) (f : Int) : (d = 0 ∨ ∃ q, st.ring = some q ∧ q ≠ []) →
      Step c g seeds st { st with dedupHits := d, frontierEv := f }
  | log {st : St α} (e : Ev α) : LogOK c st e → Step c g seeds st (logged st e)
  /-- the bookkeeping between a pop and its tests -/
  | mark {st : St α} (u l : Nat) :
      Step c g seeds st { st with layersProcessed := l, visited := (visitedMark c st u).visited,
                                  visitedEv := (visitedMark c st u).visitedEv }
  | halt {st : St α} (n : Nat) : Step c g seeds st { st with stop := n }
  /-- one relaxation over an out-edge of the node popped last, with the activation popped with it -/
  | relax {st : St α} (e : Edge α) (u : Nat) (w dec : α) :
      e ∈ g.edges → e.src = u → lastPop st.evs = some (u, w) → capReached c st = false →
      decayOf c (distGet st.dist u + 1) = some dec →
      ((distGet st.dist u + 1 : Nat) : Int) ≤ c.radiusCap →
      ((distGet st.dist u + 1 : Nat) : Int) ≤ effLayers c →
      lt (abs (mul (mul (mul w e.weight) (multOf c e.rel)) dec)) c.eps = false →
      Step c g seeds st (relaxed c st e u w (distGet st.dist u) (distGet st.dist u + 1) dec
        (mul (mul (mul w e.weight) (multOf c e.rel)) dec))
  /-- the push of the contribution just added to `acc[v]` -/
  | push {st : St α} (v : Nat) (x : α) (l : LogE α) (r' : List (Ev α)) :
      st.evs = Ev.relax l :: r' → l.dst = v → l.contrib = x → v ∈ st.acc.map (·.1) →
      ringHit st.ring v = false → lt (abs (accGet st.acc v)) c.nodeBudget = true →
      Step c g seeds st { st with
        pq := (pushCap (effFrontier c) st.pq ⟨neg (abs x), v, x⟩).1
        frontierEv := st.frontierEv + (pushCap (effFrontier c) st.pq ⟨neg (abs x), v, x⟩).2.getD 0
        ring := ringAddIf c.dedupeWindow.toNat st.ring v
        evs := Ev.push v x (accGet st.acc v) :: st.evs }

namespace LogOK

theorem lastPop {c : Cfg α} {st : St α} {e : Ev α} (h : LogOK c st e) (r : List (Ev α)) :
    lastPop (e :: r) = lastPop r := by
  cases e with
  | seed _ | pop _ _ | relax _ | push _ _ _ => exact h.elim
  | _ => rfl

theorem isPop {c : Cfg α} {st : St α} {e : Ev α} (h : LogOK c st e) : e.isPop = false := by
  cases e with
  | pop _ _ => exact h.elim
  | _ => rfl

theorem isRelax {c : Cfg α} {st : St α} {e : Ev α} (h : LogOK c st e) : e.isRelax = false := by
  cases e with
  | relax _ => exact h.elim
  | _ => rfl

end LogOK

namespace Step

theorem lastPop {c : Cfg α} {g : Graph α} {seeds : List Nat} {st st' : St α}
    (h : Step c g seeds st st') : lastPop st'.evs = lastPop st.evs := by
  cases h with
  | log e hok => exact hok.lastPop _
  | _ => rfl

end Step

theorem visitedMark_eq (c : Cfg α) (st : St α) (u : Nat) :
    visitedMark c st u = { st with visited := (visitedMark c st u).visited,
                                   visitedEv := (visitedMark c st u).visitedEv } := by
  unfold visitedMark
  split
  · split <;> rfl
  · rfl

theorem mem_outEdges {g : Graph α} {u : Nat} {e : Edge α} (h : e ∈ outEdges g u) :
    e ∈ g.edges ∧ e.src = u := by
  simpa [outEdges] using h

/-- the local dedupe counter of the seeding loop is set only once the ring is non-empty -/
theorem seedStep_localDedup {c : Cfg α} {s : SeedSt α} (nid : Nat)
    (h : s.localDedup = none ∨ ∃ q, s.st.ring = some q ∧ q ≠ []) :
    (seedStep c s nid).localDedup = none ∨ ∃ q, (seedStep c s nid).st.ring = some q ∧ q ≠ [] := by
  unfold seedStep
  dsimp only
  by_cases hh : ringHit s.st.ring nid = true
  · rw [if_pos hh]
    refine .inr ?_
    show ∃ q, s.st.ring = some q ∧ q ≠ []
    cases hr : s.st.ring with
    | none => rw [hr] at hh; cases hh
    | some q =>
      refine ⟨q, rfl, fun hq => ?_⟩
      rw [hr, hq] at hh; cases hh
  · rw [if_neg hh]
    refine h.imp id fun ⟨q, hr, hq⟩ => ?_
    show ∃ q', ringAddIf _ s.st.ring nid = some q' ∧ q' ≠ []
    rw [hr, ringAddIf, if_neg (by simpa using hq)]
    exact ⟨_, rfl, List.append_ne_nil_of_right_ne_nil _ (List.cons_ne_nil _ _)⟩

/-! ## every function of the loop body is a sequence of steps -/

section
variable {c : Cfg α} {g : Graph α} {seeds : List Nat} {P : St α → Prop}
  (hP : ∀ st st', P st → Step c g seeds st st' → P st')
include hP

theorem capCheck_ind {st : St α} (h : P st) : P (capCheck c st) := by
  unfold capCheck
  cases c.relaxCap with
  | none => exact h
  | some r => exact iteInduction (fun _ => hP _ _ h (.halt 1)) (fun _ => h)

theorem pushOrHit_ind {st : St α} {l : LogE α} {r' : List (Ev α)} (v : Nat) (x : α)
    (hl : st.evs = Ev.relax l :: r') (hd : l.dst = v) (hx : l.contrib = x)
    (hv : v ∈ st.acc.map (·.1)) (h : P st) : P (pushOrHit c st v x) := by
  unfold pushOrHit
  refine iteInduction (fun hb => ?_)
    (fun hb => hP _ _ h (.log (Ev.nodeHitPush v _) ⟨rfl, by simpa using hb, l, r', hl, hd⟩))
  unfold pushMain
  exact iteInduction (fun hr => hP _ _ h (.log (Ev.dedupHit v) hr))
    (fun hr => hP _ _ h (.push v x l r' hl hd hx hv (by simpa using hr) hb))

theorem relaxEdge_ind {st : St α} {e : Edge α} {u : Nat} {w : α} (he : e ∈ g.edges) (hs : e.src = u)
    (hlp : lastPop st.evs = some (u, w)) (h : P st) : P (relaxEdge c u w st e) := by
  unfold relaxEdge
  dsimp only
  refine iteInduction (fun _ => hP _ _ h (.halt 1)) fun hcap => ?_
  refine iteInduction (fun h1 => hP _ _ h (.log (Ev.radiusSkip u e.dst _) h1)) fun h1 => ?_
  refine iteInduction (fun h2 => hP _ _ h (.log (Ev.layerSkip u e.dst _) h2)) fun h2 => ?_
  cases hdec : decayOf c (distGet st.dist u + 1) with
  | none => exact hP _ _ h (.halt 2)
  | some dec =>
    refine iteInduction (fun h3 => hP _ _ h (.log (Ev.epsSkip u e.dst _ _) h3)) fun h3 => ?_
    have hr := hP _ _ h (.relax e u w dec he hs hlp (by simpa using hcap) hdec (Int.not_lt.mp h1)
      (Int.not_lt.mp h2) (by simpa using h3))
    exact capCheck_ind hP (pushOrHit_ind hP e.dst _ rfl rfl rfl
      ((mem_accAdd_keys _ _ _ _).2 (Or.inr rfl)) hr)

theorem gate_ind {st : St α} (it : Item α) (h : P st) : P (gate c st it).1 := by
  have hm : ∀ l, P { visitedMark c st it.id with layersProcessed := l } := fun l => by
    rw [visitedMark_eq]; exact hP _ _ h (.mark it.id l)
  unfold gate
  refine iteInduction (motive := fun r : St α × Bool => P r.1)
    (fun hv => hP _ _ h (.log (Ev.visitedSkip it.id) hv)) fun _ => ?_
  extract_lets st1 layer newLayer st2
  -- whether a new layer starts only decides which `layersProcessed` the bookkeeping leaves
  have h2 : P st2 := iteInduction (fun _ => hm _) (fun _ => hm st1.layersProcessed)
  clear_value st2
  refine iteInduction (motive := fun r : St α × Bool => P r.1)
    (fun _ => hP _ _ h2 (.log (Ev.layerStop it.id) trivial)) fun _ => ?_
  refine iteInduction (motive := fun r : St α × Bool => P r.1)
    (fun hb => hP _ _ h2 (.log (Ev.nodeHitPop it.id _) ⟨rfl, hb⟩)) fun hb => ?_
  exact hP _ _ h2 (.log (Ev.expand it.id _) ⟨rfl, by simpa using hb⟩)

theorem relaxAll_ind {u : Nat} {w : α} (es : List (Edge α)) (hes : ∀ e ∈ es, e ∈ g.edges ∧ e.src = u) :
    ∀ st : St α, lastPop st.evs = some (u, w) → P st → P (relaxAll c u w st es) := by
  induction es with
  | nil => exact fun _ _ h => h
  | cons e es ih =>
    intro st hlp h
    have he := hes e List.mem_cons_self
    have h1 := relaxEdge_ind hP he.1 he.2 hlp h
    refine iteInduction (fun _ => h1) fun _ => ?_
    refine ih (fun e' he' => hes e' (List.mem_cons_of_mem _ he')) _ ?_ h1
    exact relaxEdge_ind (g := g) (seeds := seeds) (P := fun s => lastPop s.evs = some (u, w))
      (fun _ _ h hs => hs.lastPop.trans h) he.1 he.2 hlp hlp

theorem afterPop_ind {st : St α} {it : Item α} (hlp : lastPop st.evs = some (it.id, it.w)) (h : P st) :
    P (afterPop c g st it) := by
  refine iteInduction (fun _ => ?_) (fun _ => gate_ind hP it h)
  exact relaxAll_ind hP _ (fun e he => mem_outEdges he) _
    (gate_ind (g := g) (seeds := seeds) (P := fun s => lastPop s.evs = some (it.id, it.w))
      (fun _ _ h hs => hs.lastPop.trans h) it hlp)
    (gate_ind hP it h)

theorem loop_induct
    (hpop : ∀ st it rest, P st → popMin st.pq = some (it, rest) → P (popped st it rest)) :
    ∀ (fuel : Nat) (st : St α), P st → P (loop c g fuel st) := by
  have hstep : ∀ st, P st → P (popStep c g st) := by
    intro st h
    unfold popStep
    split
    · exact h
    · rename_i r hr
      exact afterPop_ind hP rfl (hpop st r.1 r.2 h hr)
  intro fuel
  induction fuel with
  | zero => exact fun _ h => h
  | succ n ih =>
    intro st h
    exact iteInduction (fun _ => h) fun _ => iteInduction (fun _ => hstep st h) fun _ => ih _ (hstep st h)

theorem seedStep_ind {s : SeedSt α} {nid : Nat} (hn : nid ∈ seeds) (h : P s.st) :
    P (seedStep c s nid).st := by
  unfold seedStep
  dsimp only
  by_cases hh : ringHit s.st.ring nid = true
  · rw [if_pos hh]
    exact hP _ _ h (.seed nid _ _ hn (.inl ⟨hh, rfl, rfl⟩))
  · rw [if_neg hh]
    exact hP _ _ h (.seed nid _ _ hn (.inr ⟨by simpa using hh, rfl, rfl⟩))

theorem seedAll_induct (h0 : P (st0 c)) : P (seedAll c seeds) := by
  have := Fold.foldl_invariant
    (fun s : SeedSt α => P s.st ∧ (s.localDedup = none ∨ ∃ q, s.st.ring = some q ∧ q ≠ []))
    (seedStep c) seeds
    (fun s nid hn h => ⟨seedStep_ind hP hn h.1, seedStep_localDedup nid h.2⟩)
    (s := ⟨st0 c, none, none⟩) ⟨h0, .inl rfl⟩
  refine hP _ _ this.1 (.tally _ _ (this.2.imp (fun h => ?_) id))
  rw [h]; rfl

/-- A predicate that holds of the empty state and is kept by every atomic step and every heap pop holds
when the run of one graph ends. -/
theorem finalSt_induct {text : List Nat} (hseeds : seeds = seedsOf g text) (h0 : P (st0 c))
    (hpop : ∀ st it rest, P st → popMin st.pq = some (it, rest) → P (popped st it rest)) :
    P (finalSt c g text) := by
  subst hseeds
  exact loop_induct hP hpop _ _ (seedAll_induct hP h0)

end

end Clem.T1
