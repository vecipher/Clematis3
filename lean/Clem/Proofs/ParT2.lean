import Clem.Proofs.Sort
import Clem.Model.ParT2

/-! Helper lemmas for the T2 fan-out (C09): the shard iterator cuts the index into chunks; `topk` is a
streaming fold; a ranking that is such a fold, order-independent and idempotent can be applied to the
shards first (`flatten_map_absorb`, used for `topk` here and for `rankU` in `ParT2Dedup`); the repaired
merge key is the raw ranking key. -/
namespace Clem.ParT2

open Clem.Py

variable {ε X α : Type}

theorem chunks_succ (size fuel : Nat) (a : ε) (t : List ε) :
    chunks size (fuel + 1) (a :: t) = (a :: t).take size :: chunks size fuel ((a :: t).drop size) := rfl

theorem chunks_flatten (size : Nat) (hs : 1 ≤ size) (fuel : Nat) (l : List ε) (hl : l.length ≤ fuel) :
    (chunks size fuel l).flatten = l := by
  induction fuel generalizing l with
  | zero => rw [List.eq_nil_of_length_eq_zero (Nat.le_zero.mp hl)]; rfl
  | succ fuel ih =>
    cases l with
    | nil => rfl
    | cons a t =>
      rw [chunks_succ, List.flatten_cons, ih, List.take_append_drop]
      rw [List.length_drop]
      exact Nat.sub_le_iff_le_add.mpr (hl.trans (Nat.add_le_add_left hs fuel))

/-- every chunk is the `size`-prefix of a non-empty list. -/
theorem mem_chunks (size fuel : Nat) (l : List ε) :
    ∀ c ∈ chunks size fuel l, ∃ a t, c = (a :: t).take size := by
  induction fuel generalizing l with
  | zero => exact fun _ h => nomatch h
  | succ fuel ih =>
    cases l with
    | nil => exact fun _ h => nomatch h
    | cons a t =>
      intro c h
      rw [chunks_succ, List.mem_cons] at h
      exact h.elim (fun e => ⟨a, t, e⟩) (ih _ c)

theorem chunks_nonempty (size : Nat) (hs : 1 ≤ size) :
    ∀ (fuel : Nat) (l : List ε), ∀ c ∈ chunks size fuel l, c ≠ [] := by
  intro fuel l c hc
  obtain ⟨a, t, rfl⟩ := mem_chunks size fuel l c hc
  obtain ⟨s, rfl⟩ := Nat.exists_eq_add_of_le' hs
  exact List.cons_ne_nil _ _

theorem chunks_len_le (size : Nat) :
    ∀ (fuel : Nat) (l : List ε), ∀ c ∈ chunks size fuel l, c.length ≤ size := by
  intro fuel l c hc
  obtain ⟨a, t, rfl⟩ := mem_chunks size fuel l c hc
  exact List.length_take_le _ _

/-- `_iter_shards_for_t2` yields the index itself or cuts it into chunks of a positive size. -/
theorem iterShards_cases (eps : List ε) (suggested : Option Int) :
    iterShards eps suggested = [eps]
    ∨ ∃ size, 1 ≤ size ∧ iterShards eps suggested = chunks size eps.length eps := by
  unfold iterShards
  dsimp only
  by_cases h1 : eps.length ≤ 1
  · exact Or.inl (if_pos h1)
  · rw [if_neg h1]
    cases suggested with
    | none => exact Or.inl rfl
    | some s =>
      dsimp only
      by_cases h2 : s ≤ 1
      · exact Or.inl (if_pos h2)
      · rw [if_neg h2]
        exact (ite_eq_or_eq _ _ _).imp_right fun h => ⟨_, Nat.le_max_left 1 _, h⟩

/-- `topk` is a fold: one streaming insertion per element. -/
theorem topk_cons (le : X → X → Bool) (k : Nat) (x : X) (l : List X) :
    topk le k (x :: l) = (orderedInsert le x (topk le k l)).take k :=
  take_orderedInsert le x k (isort le l)

/-- A ranking `T` that is computed by a right fold (`T (a :: l)` depends on `l` only through `T l`),
does not depend on the order of its input and is idempotent can be applied to the parts of a union
first: this is what lets every shard cut its own hits to `k` before the merge. -/
theorem flatten_map_absorb (T : List X → List X)
    (hcons : ∀ (a : X) {l l' : List X}, T l = T l' → T (a :: l) = T (a :: l'))
    (hperm : ∀ {l l' : List X}, l.Perm l' → T l = T l')
    (hidem : ∀ l, T (T l) = T l) (shards : List (List X)) :
    T (shards.map T).flatten = T shards.flatten := by
  have happ : ∀ (s : List X) {x y : List X}, T x = T y → T (s ++ x) = T (s ++ y) := by
    intro s x y h
    induction s with
    | nil => exact h
    | cons a s ih => exact hcons a ih
  induction shards with
  | nil => rfl
  | cons s rest ih =>
    rw [List.map_cons, List.flatten_cons, List.flatten_cons]
    calc T (T s ++ (rest.map T).flatten)
        = T ((rest.map T).flatten ++ T s) := hperm List.perm_append_comm
      _ = T ((rest.map T).flatten ++ s) := happ _ (hidem s)
      _ = T (s ++ (rest.map T).flatten) := hperm List.perm_append_comm
      _ = T (s ++ rest.flatten) := happ s ih

section linear
variable (le : X → X → Bool)
  (total : ∀ a b, le a b = true ∨ le b a = true)
  (trans : ∀ a b c, le a b = true → le b c = true → le a c = true)
  (antisymm : ∀ a b, le a b = true → le b a = true → a = b)
include total trans

theorem topk_idem (k : Nat) (l : List X) : topk le k (topk le k l) = topk le k l := by
  unfold topk
  rw [isort_of_pairwise le ((isort_pairwise le total trans l).sublist (List.take_sublist k _)),
    List.take_take, Nat.min_self]

include antisymm

theorem topk_perm {l l' : List X} (k : Nat) (hp : l.Perm l') : topk le k l = topk le k l' := by
  unfold topk
  rw [isort_perm_invariant le total trans hp (fun a _ b _ => antisymm a b)]

theorem topk_flatten_map (k : Nat) (shards : List (List X)) :
    topk le k (shards.map (topk le k)).flatten = topk le k shards.flatten :=
  flatten_map_absorb (topk le k) (fun a _ _ h => by rw [topk_cons, topk_cons, h])
    (topk_perm le total trans antisymm k) (topk_idem le total trans k) shards

end linear

theorem isort_congr (le le' : X → X → Bool) (l : List X)
    (h : ∀ a ∈ l, ∀ b ∈ l, le a b = le' a b) : isort le l = isort le' l :=
  isort_congr_of_pairwise le le' (List.pairwise_of_forall_mem_list h)

/-- the repaired merge key is the raw ranking key when `_qscore` is monotone. -/
theorem hitLeQR_eq_rawLe (q : α → Int) (lt : α → α → Bool)
    (asym : ∀ x y, lt x y = true → lt y x = false)
    (qmono : ∀ x y, lt x y = false → q y ≤ q x) (a b : Hit α) :
    hitLeQR q lt a b = rawLe lt a b := by
  show (decide (q b.score < q a.score) || (q a.score == q b.score && rawLe lt a b)) = rawLe lt a b
  cases hR : rawLe lt a b with
  | false =>
    -- `a`'s raw score is not above `b`'s, so neither is its quantum
    have := qmono _ _ (Bool.or_eq_false_iff.mp hR).1
    rw [Bool.and_false, Bool.or_false, decide_eq_false (Int.not_lt.mpr this)]
  | true =>
    -- `a`'s raw score is not below `b`'s: its quantum is above, or the same and the raw key decides
    have hab : lt a.score b.score = false := by
      cases hba : lt b.score a.score with
      | true => exact asym _ _ hba
      | false =>
        rw [rawLe, hba, Bool.false_or, Bool.and_eq_true] at hR
        exact (Bool.not_eq_true' _).mp hR.1
    have := qmono _ _ hab
    by_cases h : q b.score < q a.score
    · rw [decide_eq_true h, Bool.true_or]
    · rw [Int.le_antisymm (Int.not_lt.mp h) this, beq_iff_eq.mpr rfl, Bool.and_true, Bool.or_true]

end Clem.ParT2
