import Mathlib.Algebra.Order.Field.Basic
import Mathlib.Algebra.Order.Ring.Abs
import Clem.Model.Gel

/-!
The ordered-field instance of the GEL number carrier: the model definitions of
`Clem/Model/Gel.lean` instantiated at any linearly ordered field `α` use the field's own
`+ - * / |·|` and its decidable order.  All C18 theorems are stated at this instance.
-/
namespace Clem.Gel
open Clem.Py

set_option linter.unusedSectionVars false
variable {α : Type} [Field α] [LinearOrder α] [IsStrictOrderedRing α]

instance fieldNumGel : NumGel α where
  zero := 0
  one := 1
  half := 1 / 2
  add := (· + ·)
  sub := (· - ·)
  mul := (· * ·)
  div := (· / ·)
  neg := fun x => -x
  abs := fun x => |x|
  ofNat := fun n => (n : α)
  lt := fun a b => decide (a < b)
  le := fun a b => decide (a ≤ b)
  eq := fun a b => decide (a = b)

@[simp] theorem num_zero : (NumGel.zero : α) = 0 := rfl
@[simp] theorem num_one : (NumGel.one : α) = 1 := rfl
@[simp] theorem num_half : (NumGel.half : α) = 1 / 2 := rfl
@[simp] theorem num_add (a b : α) : NumGel.add a b = a + b := rfl
@[simp] theorem num_sub (a b : α) : NumGel.sub a b = a - b := rfl
@[simp] theorem num_mul (a b : α) : NumGel.mul a b = a * b := rfl
@[simp] theorem num_div (a b : α) : NumGel.div a b = a / b := rfl
@[simp] theorem num_neg (a : α) : NumGel.neg a = -a := rfl
@[simp] theorem num_abs (a : α) : NumGel.abs a = |a| := rfl
@[simp] theorem num_ofNat (n : Nat) : (NumGel.ofNat n : α) = (n : α) := rfl
@[simp] theorem num_lt (a b : α) : NumGel.lt a b = decide (a < b) := rfl
@[simp] theorem num_le (a b : α) : NumGel.le a b = decide (a ≤ b) := rfl
@[simp] theorem num_eq (a b : α) : NumGel.eq a b = decide (a = b) := rfl

end Clem.Gel
