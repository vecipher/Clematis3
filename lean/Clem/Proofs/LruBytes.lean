import Clem.Model.LruBytes
import Clem.Proofs.KeyedList

/-! The invariant of the `LRUBytes` model (unique keys, the byte total is the sum of the costs, both caps), the
eviction loop as "drop a prefix", and what `put` / `get` do to the invariant and to a lookup. -/
namespace Clem.LruBytes

def Inv (s : State) : Prop :=
  (s.items.map Entry.key).Nodup ∧
  s.bytes = (sumCost s.items : Int) ∧
  (0 < s.maxE → s.items.length ≤ s.maxE) ∧
  (0 < s.maxB → s.bytes ≤ (s.maxB : Int)) ∧
  (s.maxE = 0 ∧ s.maxB = 0 → s.items = [])

/-- A cap of zero means "no bound" in the monitor. -/
theorem zero_or_iff {n : Nat} {p : Prop} : n = 0 ∨ p ↔ (0 < n → p) :=
  ⟨fun h hn => h.resolve_left (Nat.ne_of_gt hn), fun h => (Nat.eq_zero_or_pos n).imp_right h⟩

@[simp] theorem sumCost_nil : sumCost [] = 0 := rfl
@[simp] theorem sumCost_cons (e : Entry) (l : List Entry) :
    sumCost (e :: l) = e.cost + sumCost l := rfl
@[simp] theorem sumCost_append (l₁ l₂ : List Entry) :
    sumCost (l₁ ++ l₂) = sumCost l₁ + sumCost l₂ := by
  unfold sumCost; rw [List.map_append, List.sum_append]

theorem sumCost_without_some {k : Nat} {l : List Entry} {e : Entry}
    (hn : (l.map Entry.key).Nodup) (h : lookup k l = some e) :
    sumCost l = e.cost + sumCost (without k l) := by
  induction l with
  | nil => cases h
  | cons a t ih =>
    rw [List.map_cons, List.nodup_cons] at hn
    unfold lookup at h
    unfold without
    by_cases hk : a.key = k
    · rw [List.find?_cons_of_pos (by simpa using hk)] at h
      rw [List.filter_cons_of_neg (by simpa using hk), KeyedList.filter_eq_self (hk ▸ hn.1)]
      cases h; rfl
    · rw [List.find?_cons_of_neg (by simpa using hk)] at h
      rw [List.filter_cons_of_pos (by simpa using hk), sumCost_cons, sumCost_cons, ih hn.2 h]
      unfold without; omega

/-- Under the accounting invariant the byte total handed to the eviction loop is exact. -/
theorem bytesWithout_add {s : State} (k v c : Nat) (h1 : (s.items.map Entry.key).Nodup)
    (h2 : s.bytes = (sumCost s.items : Int)) :
    bytesWithout s k + (c : Int)
      = ((sumCost (without k s.items ++ [⟨k, v, c⟩]) : Nat) : Int) := by
  rw [sumCost_append, Int.natCast_add]
  refine congrArg (· + (c : Int)) ?_
  unfold bytesWithout
  cases hl : lookup k s.items with
  | none =>
    rw [show without k s.items = s.items from
      KeyedList.filter_eq_self (KeyedList.find?_eq_none.mp hl)]
    exact h2
  | some e =>
    show s.bytes - e.cost = _
    rw [h2, sumCost_without_some h1 hl, Int.natCast_add, Int.add_comm, Int.add_sub_cancel]

theorem length_without_le (k : Nat) (l : List Entry) : (without k l).length ≤ l.length :=
  List.length_filter_le _ _

/-- What the eviction loop does: it removes a prefix, accounts for it exactly, and
stops within both caps whenever something remains. -/
theorem evictLoop_spec (maxE maxB : Nat) (l : List Entry) (t : Int) :
    l = (evictLoop maxE maxB l t).2.2 ++ (evictLoop maxE maxB l t).1 ∧
    (evictLoop maxE maxB l t).2.1 = t - (sumCost (evictLoop maxE maxB l t).2.2 : Int) ∧
    ((evictLoop maxE maxB l t).1 ≠ [] →
      (0 < maxE → (evictLoop maxE maxB l t).1.length ≤ maxE) ∧
      (0 < maxB → (evictLoop maxE maxB l t).2.1 ≤ (maxB : Int))) := by
  induction l generalizing t with
  | nil => exact ⟨rfl, (Int.sub_zero t).symm, fun h => absurd rfl h⟩
  | cons e es ih =>
    by_cases hc : (0 < maxE ∧ maxE < (e :: es).length) ∨ (0 < maxB ∧ (maxB : Int) < t)
    · rw [evictLoop, if_pos hc]
      obtain ⟨h1, h2, h3⟩ := ih (t - e.cost)
      exact ⟨congrArg (e :: ·) h1, by rw [h2, sumCost_cons, Int.natCast_add, Int.sub_sub], h3⟩
    · rw [evictLoop, if_neg hc]
      exact ⟨rfl, (Int.sub_zero t).symm, fun _ =>
        ⟨fun h => Nat.le_of_not_lt fun h' => hc (.inl ⟨h, h'⟩),
         fun h => Int.not_lt.mp fun h' => hc (.inr ⟨h, h'⟩)⟩⟩

/-- `put` does nothing when the cache is disabled or the item exceeds the byte cap … -/
theorem put_rejected (s : State) (k v : Nat) (c : Int)
    (h : (s.maxE = 0 ∧ s.maxB = 0) ∨ (0 < s.maxB ∧ s.maxB < c.toNat)) : put s k v c = (s, []) := by
  unfold put
  by_cases hen : s.maxE = 0 ∧ s.maxB = 0
  · exact if_pos hen
  · rw [if_neg hen]; exact if_pos (h.resolve_left hen)

/-- … and otherwise is the eviction loop run on the reinserted list. -/
theorem put_accepted (s : State) (k v : Nat) (c : Int)
    (h : ¬((s.maxE = 0 ∧ s.maxB = 0) ∨ (0 < s.maxB ∧ s.maxB < c.toNat))) :
    put s k v c =
      ({ s with
          items := (evictLoop s.maxE s.maxB (without k s.items ++ [⟨k, v, c.toNat⟩])
            (bytesWithout s k + c.toNat)).1,
          bytes := (evictLoop s.maxE s.maxB (without k s.items ++ [⟨k, v, c.toNat⟩])
            (bytesWithout s k + c.toNat)).2.1 },
        (evictLoop s.maxE s.maxB (without k s.items ++ [⟨k, v, c.toNat⟩])
          (bytesWithout s k + c.toNat)).2.2) := by
  unfold put; rw [if_neg (h ∘ .inl)]; exact if_neg (h ∘ .inr)

end Clem.LruBytes
