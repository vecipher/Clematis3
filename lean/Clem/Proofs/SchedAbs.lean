/-
C17 — the starvation bound for the abstract scheduling relation.
Core Lean only.  Agents are any type with decidable equality; the state is the
counter map `c : α → Nat`; the fixed list `q` (no duplicates) is the set of queued agents.
-/
namespace Clem.Sched.Abs

variable {α : Type} [DecidableEq α]

def upd (c : α → Nat) (a : α) (v : Nat) : α → Nat := fun b => if b = a then v else c b

/-- One selection followed by its bookkeeping.  `norm`: any agent with allowance left runs and
its counter goes up by one.  `reset`: only when nobody has allowance left; any agent runs and all
counters are zeroed. -/
inductive AStep (q : List α) (m : Nat) : (α → Nat) → α → (α → Nat) → Prop
  | norm {c : α → Nat} {a : α} : a ∈ q → c a < m → AStep q m c a (upd c a (c a + 1))
  | reset {c : α → Nat} {a : α} : (∀ b ∈ q, m ≤ c b) → a ∈ q → AStep q m c a (fun _ => 0)

/-- A history: the list of selected agents. -/
inductive ARun (q : List α) (m : Nat) : (α → Nat) → List α → (α → Nat) → Prop
  | nil {c : α → Nat} : ARun q m c [] c
  | cons {c c' c'' : α → Nat} {a : α} {tr : List α} :
      AStep q m c a c' → ARun q m c' tr c'' → ARun q m c (a :: tr) c''

/-- remaining allowance of everybody but `x` -/
def rem (m : Nat) (c : α → Nat) (x : α) : List α → Nat
  | [] => 0
  | b :: t => (if b = x then 0 else m - c b) + rem m c x t

/-- one more turn of `a ≠ x` takes one off the remaining allowance for each occurrence of `a` -/
theorem rem_upd_count (m : Nat) (c : α → Nat) (x a : α) (l : List α) (hax : a ≠ x) (hc : c a < m) :
    rem m (upd c a (c a + 1)) x l + l.count a = rem m c x l := by
  induction l with
  | nil => rfl
  | cons b t ih =>
    have hb : (if b = x then 0 else m - upd c a (c a + 1) b) + (if b == a then 1 else 0) =
        if b = x then 0 else m - c b := by
      by_cases hb : b = a
      · subst hb; simp only [upd, if_neg hax, if_true, beq_self_eq_true]; omega
      · simp only [upd, if_neg hb, beq_iff_eq, Nat.add_zero]
    rw [rem, rem, List.count_cons, ← ih, ← hb]; omega

/-- every entry of `l` adds at most `m`, and an occurrence of `x` adds nothing -/
theorem rem_add_count_le (m : Nat) (c : α → Nat) (x : α) (l : List α) :
    rem m c x l + l.count x * m ≤ l.length * m := by
  induction l with
  | nil => simp [rem]
  | cons b t ih =>
    rw [rem, List.count_cons, List.length_cons, Nat.add_mul, Nat.add_mul, Nat.one_mul]
    by_cases hb : b = x
    · rw [if_pos hb, if_pos (beq_iff_eq.2 hb), Nat.one_mul]; omega
    · rw [if_neg hb, if_neg (by simpa using hb), Nat.zero_mul]; omega

theorem rem_le (m : Nat) (c : α → Nat) (x : α) (l : List α) (hx : x ∈ l) :
    rem m c x l ≤ (l.length - 1) * m := by
  have h := rem_add_count_le m c x l
  have h1 : 1 * m ≤ l.count x * m := Nat.mul_le_mul_right m (List.count_pos_iff.2 hx)
  rw [Nat.sub_mul]; omega

/-- upper bound on the number of further selections `x` can be kept waiting from `c` -/
def wait (q : List α) (m : Nat) (c : α → Nat) (x : α) : Nat :=
  if c x < m then rem m c x q else rem m c x q + 1 + (q.length - 1) * m

theorem wait_step {q : List α} {m : Nat} {c c' : α → Nat} {a x : α} (hq : q.Nodup) (hx : x ∈ q)
    (hm : 1 ≤ m) (hs : AStep q m c a c') (hax : a ≠ x) : wait q m c' x + 1 ≤ wait q m c x := by
  cases hs with
  | norm ha hc =>
    have hd := rem_upd_count m c x a q hax hc
    rw [hq.count, if_pos ha] at hd
    have e : upd c a (c a + 1) x = c x := by
      have : x ≠ a := fun h => hax h.symm
      simp [upd, this]
    unfold wait
    rw [e]
    split <;> omega
  | reset hall ha =>
    have h1 := hall x hx
    have h2 := rem_le m (fun _ => 0) x q hx
    unfold wait
    have : ¬ c x < m := by omega
    rw [if_neg this, if_pos (by omega : (0 : Nat) < m)]
    omega

/-- the core measure lemma: a history in which `x` is never selected is no longer than `wait` -/
theorem xfree_len {q : List α} {m : Nat} {x : α} (hq : q.Nodup) (hx : x ∈ q) (hm : 1 ≤ m)
    {c c' : α → Nat} {tr : List α} (hr : ARun q m c tr c') (hfree : x ∉ tr) :
    tr.length ≤ wait q m c x := by
  induction hr with
  | nil => simp
  | @cons c0 c1 c2 a t hs _ ih =>
    have hax : a ≠ x := fun e => hfree (by simp [e])
    have ht : x ∉ t := fun e => hfree (by simp [e])
    have := wait_step hq hx hm hs hax
    have := ih ht
    simp only [List.length_cons]; omega

theorem wait_le (q : List α) (m : Nat) (c : α → Nat) (x : α) (hx : x ∈ q) :
    wait q m c x ≤ 2 * (q.length - 1) * m + 1 := by
  have := rem_le m c x q hx
  unfold wait
  rw [Nat.mul_assoc]
  split <;> omega

/-- **Starvation bound** for the relation: any `x`-free stretch of any history, from any
counter map whatsoever, has at most `2·(n−1)·m + 1` selections. -/
theorem starvation_bound {q : List α} {m : Nat} {x : α} (hq : q.Nodup) (hx : x ∈ q) (hm : 1 ≤ m)
    {c c' : α → Nat} {tr : List α} (hr : ARun q m c tr c') (hfree : x ∉ tr) :
    tr.length ≤ 2 * (q.length - 1) * m + 1 :=
  Nat.le_trans (xfree_len hq hx hm hr hfree) (wait_le q m c x hx)

/-- from a state where `x` still has allowance the wait is at most `(n−1)·m` -/
theorem first_selection_bound {q : List α} {m : Nat} {x : α} (hq : q.Nodup) (hx : x ∈ q) (hm : 1 ≤ m)
    {c c' : α → Nat} {tr : List α} (hc : c x < m) (hr : ARun q m c tr c') (hfree : x ∉ tr) :
    tr.length ≤ (q.length - 1) * m := by
  have h1 := xfree_len hq hx hm hr hfree
  have h2 := rem_le m c x q hx
  unfold wait at h1
  rw [if_pos hc] at h1
  omega

namespace ARun

/-- runs split: every contiguous window of a history is itself a history -/
theorem split {q : List α} {m : Nat} {c c' : α → Nat} (t1 t2 : List α)
    (hr : ARun q m c (t1 ++ t2) c') : ∃ cm, ARun q m c t1 cm ∧ ARun q m cm t2 c' := by
  induction t1 generalizing c with
  | nil => exact ⟨c, .nil, hr⟩
  | cons a t ih =>
    cases hr with
    | cons hs hrest =>
      obtain ⟨cm, h1, h2⟩ := ih hrest
      exact ⟨cm, .cons hs h1, h2⟩

end ARun

end Clem.Sched.Abs
