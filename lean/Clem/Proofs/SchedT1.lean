/-
C17 — the T1 slice budgets bind the TOTALS `t1_propagate` reports (the quantities `_should_yield`
tests), proved on the exact T1 model (`Clem.T1.t1`, the definitions the C12 driver routes execute):
every graph runs under the budget the earlier graphs left (`leftCfg`).
-/
import Clem.Proofs.T1Budget

namespace Clem.T1
open Num

section
variable {α : Type}

theorem lookupGC_spec (l : List (Nat × GRes α)) (gid : Nat) (q lay : Int) (r : GRes α)
    (h : lookupGC l gid q lay = some r) : (∃ k, (k, r) ∈ l) ∧ r.capQ = q ∧ r.capL = lay := by
  induction l with
  | nil => simp [lookupGC] at h
  | cons e rest ih =>
    obtain ⟨k, r0⟩ := e
    simp only [lookupGC] at h
    split at h
    · rename_i hc
      simp only [Option.some.injEq] at h
      subst h
      simp only [Bool.and_eq_true, decide_eq_true_eq, beq_iff_eq] at hc
      exact ⟨⟨k, List.mem_cons_self⟩, hc.1.2, hc.2⟩
    · obtain ⟨⟨k', hk⟩, h2, h3⟩ := ih h
      exact ⟨⟨k', List.mem_cons_of_mem _ hk⟩, h2, h3⟩

theorem effQueue_left (c : Cfg α) (t : Tot α) (s : Int) (h : c.slicePops = some s) :
    effQueue (leftCfg c t) ≤ s - (t.pops : Int) := by
  unfold effQueue leftCfg
  simp only [h, Option.map_some]
  exact imin_le_right _ _

theorem effLayers_left (c : Cfg α) (t : Tot α) (s : Int) (h : c.sliceIters = some s) :
    effLayers (leftCfg c t) ≤ s - t.iters := by
  unfold effLayers leftCfg
  simp only [h, Option.map_some]
  exact imin_le_right _ _

end

variable {α : Type} [Num α]

/-- a per-graph result respects the caps it was computed under -/
def EOK (r : GRes α) : Prop := (r.pops : Int) ≤ imax r.capQ 0 ∧ r.iters ≤ imax r.capL 0

theorem oneGraph_caps (c : Cfg α) (g : Graph α) (text : List Nat) :
    (oneGraph c g text).capQ = effQueue c ∧ (oneGraph c g text).capL = effLayers c := by
  unfold oneGraph; dsimp only; split <;> exact ⟨rfl, rfl⟩

theorem oneGraph_EOK (c : Cfg α) (g : Graph α) (text : List Nat) : EOK (oneGraph c g text) := by
  obtain ⟨hp, hi, _⟩ := oneGraph_le c g text
  unfold EOK
  rw [(oneGraph_caps c g text).1, (oneGraph_caps c g text).2, imax_eq_max, imax_eq_max]
  exact ⟨hp, hi⟩

/-- invariant of the running totals -/
structure TInv (c0 : Cfg α) (t : Tot α) : Prop where
  pops : ∀ s, c0.slicePops = some s → 0 ≤ s → (t.pops : Int) ≤ s
  iters : ∀ s, c0.sliceIters = some s → 0 ≤ s → t.iters ≤ s
  cache : ∀ e ∈ t.cache, EOK e.2

/-- the per-graph result `addGraph` adds: a cached one or the fresh one -/
def stepRes (c0 : Cfg α) (text : List Nat) (t : Tot α) (g : Graph α) : GRes α :=
  let c := leftCfg c0 t
  let fresh := oneGraph c g text
  let hit : Option (GRes α) :=
    if c.cacheOn && !fresh.seeds.isEmpty then lookupGC t.cache g.gid (effQueue c) (effLayers c) else none
  match hit with
  | some h => { h with maxDelta := zero, frontierEv := 0, dedupHits := 0, visitedEv := 0, cached := true }
  | none => fresh

theorem stepRes_ok (c0 : Cfg α) (text : List Nat) (t : Tot α) (g : Graph α) (hc : ∀ e ∈ t.cache, EOK e.2) :
    EOK (stepRes c0 text t g) ∧ (stepRes c0 text t g).capQ = effQueue (leftCfg c0 t) ∧
      (stepRes c0 text t g).capL = effLayers (leftCfg c0 t) := by
  unfold stepRes
  dsimp only
  split
  · rename_i h hh
    split at hh
    · obtain ⟨⟨k, hk⟩, h2, h3⟩ := lookupGC_spec _ _ _ _ _ hh
      have := hc (k, h) hk
      exact ⟨this, h2, h3⟩
    · cases hh
  · exact ⟨oneGraph_EOK _ _ _, (oneGraph_caps _ _ _).1, (oneGraph_caps _ _ _).2⟩

theorem mem_ite_append {β : Type} {b : Bool} {l : List β} {x e : β}
    (h : e ∈ (if b = true then l ++ [x] else l)) : e ∈ l ∨ e = x := by
  cases b
  · left; simpa using h
  · simp only [if_true, List.mem_append, List.mem_singleton] at h; exact h

/-- `stepRes` repeats the `let` block of `addGraph`; this is where the two are checked to agree -/
theorem addGraph_fields (c0 : Cfg α) (text : List Nat) (t : Tot α) (g : Graph α) (ht : t.err = false) :
    (addGraph c0 text t g).pops = t.pops + (stepRes c0 text t g).pops ∧
    (addGraph c0 text t g).iters = t.iters + (stepRes c0 text t g).iters ∧
    (∀ e ∈ (addGraph c0 text t g).cache, e ∈ t.cache ∨ e.2 = stepRes c0 text t g) := by
  unfold addGraph stepRes
  simp only [ht, Bool.false_eq_true, if_false]
  refine ⟨rfl, rfl, ?_⟩
  intro e he
  rcases mem_ite_append he with h | h
  · left; exact h
  · right; rw [h]; rfl

/-- adding what a graph reports under the caps left for it keeps the total within the budget -/
theorem total_le {s t r cap : Int} (ht : t ≤ s) (hr : r ≤ imax cap 0) (hcap : cap ≤ s - t) : t + r ≤ s := by
  rw [imax_eq_max] at hr; omega

theorem addGraph_inv (c0 : Cfg α) (text : List Nat) (t : Tot α) (g : Graph α) (hI : TInv c0 t) :
    TInv c0 (addGraph c0 text t g) := by
  by_cases ht : t.err = true
  · have : addGraph c0 text t g = t := by unfold addGraph; simp [ht]
    rw [this]; exact hI
  · obtain ⟨hp, hi, hcache⟩ := addGraph_fields c0 text t g (by simpa using ht)
    obtain ⟨hok, hq, hl⟩ := stepRes_ok c0 text t g hI.cache
    refine ⟨fun s hs h0 => ?_, fun s hs h0 => ?_, fun e he => ?_⟩
    · rw [hp]; push_cast
      exact total_le (hI.pops s hs h0) (hq ▸ hok.1) (effQueue_left c0 t s hs)
    · rw [hi]
      exact total_le (hI.iters s hs h0) (hl ▸ hok.2) (effLayers_left c0 t s hs)
    · rcases hcache e he with h | h
      · exact hI.cache e h
      · rw [h]; exact hok

/-- the running totals of `t1_propagate` stay within the slice budgets -/
theorem t1_inv (c : Cfg α) (gs : List (Graph α)) (text : List Nat) : TInv c (t1 c gs text) :=
  Fold.foldl_invariant (TInv c) (addGraph c text) gs (fun t g _ h => addGraph_inv c text t g h)
    ⟨fun _ _ h0 => h0, fun _ _ h0 => h0, fun _ he => nomatch he⟩

end Clem.T1
