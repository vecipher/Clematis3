/-
C17 — lemmas tying the exact scheduler model (`Clem.Model.Sched`) to the abstract
scheduling relation (`Clem.Proofs.SchedAbs`).
-/
import Clem.Model.Sched
import Clem.Proofs.SchedAbs
import Clem.Proofs.Sort

namespace Clem.Sched

open Clem.Sched.Abs

/-- `ltA` is the strict side of `Py.lexLe`, the order `Proofs/Sort` relates to `List Nat`'s own -/
theorem ltA_eq_not_lexLe : ∀ a b : Agent, ltA a b = !Clem.Py.lexLe b a
  | [], [] => rfl
  | [], _ :: _ => rfl
  | _ :: _, [] => rfl
  | x :: xs, y :: ys => by
    rw [ltA, Clem.Py.lexLe, ltA_eq_not_lexLe xs ys]
    by_cases h1 : x < y
    · simp [h1, Nat.lt_asymm h1]
    · by_cases h2 : y < x <;> simp [h1, h2]

theorem ltA_false_iff (a b : Agent) : ltA a b = false ↔ b ≤ a := by
  rw [ltA_eq_not_lexLe, Bool.not_eq_false', Clem.Py.lexLe_iff]

theorem ltA_iff (a b : Agent) : ltA a b = true ↔ a < b := by
  rw [← Bool.not_eq_false, ltA_false_iff, List.not_le]

/-- `min(best :: l)` is an element and nothing is below it. -/
theorem pyMinAux_spec (best : Agent) (l : List Agent) :
    pyMinAux best l ∈ best :: l ∧ ∀ b ∈ best :: l, pyMinAux best l ≤ b := by
  induction l generalizing best with
  | nil => exact ⟨List.mem_singleton.2 rfl, fun b hb => List.mem_singleton.1 hb ▸ List.le_refl _⟩
  | cons x t ih =>
    rw [pyMinAux]
    split
    · rename_i hx
      obtain ⟨hm, hle⟩ := ih x
      refine ⟨List.mem_cons_of_mem _ hm, fun b hb => ?_⟩
      rcases List.mem_cons.1 hb with rfl | hb
      · exact List.le_trans (hle x List.mem_cons_self) (List.le_of_lt ((ltA_iff _ _).1 hx))
      · exact hle b hb
    · rename_i hx
      obtain ⟨hm, hle⟩ := ih best
      have hbx : pyMinAux best t ≤ x :=
        List.le_trans (hle best List.mem_cons_self) ((ltA_false_iff _ _).1 (by simpa using hx))
      refine ⟨?_, fun b hb => ?_⟩
      · rcases List.mem_cons.1 hm with h | h
        · rw [h]; exact List.mem_cons_self
        · exact List.mem_cons_of_mem _ (List.mem_cons_of_mem _ h)
      · rcases List.mem_cons.1 hb with rfl | hb
        · exact hle _ List.mem_cons_self
        · rcases List.mem_cons.1 hb with rfl | hb
          · exact hbx
          · exact hle b (List.mem_cons_of_mem _ hb)

theorem pyMin_mem {q : List Agent} (h : q ≠ []) : pyMin q ∈ q := by
  cases q with
  | nil => exact absurd rfl h
  | cons a t => exact (pyMinAux_spec a t).1

theorem pyMin_least {q : List Agent} (b : Agent) (hb : b ∈ q) : ltA b (pyMin q) = false := by
  cases q with
  | nil => cases hb
  | cons a t => exact (ltA_false_iff _ _).2 ((pyMinAux_spec a t).2 b hb)

theorem isLeastB_pyMin {q : List Agent} (h : q ≠ []) : isLeastB q (pyMin q) = true := by
  simp only [isLeastB, Bool.and_eq_true, List.contains_iff_mem, List.all_eq_true, Bool.not_eq_true']
  exact ⟨pyMin_mem h, fun b hb => pyMin_least b hb⟩

theorem dGetD_dSet (d : Dict) (a b : Agent) (v dflt : Int) (h : dHas d a = true) :
    dGetD (dSet d a v) b dflt = if b = a then v else dGetD d b dflt := by
  induction d with
  | nil => simp [dHas] at h
  | cons p t ih =>
    obtain ⟨k, w⟩ := p
    by_cases hk : k = a
    · subst hk
      simp only [dSet, if_true, dGetD]
      by_cases hb : b = k
      · subst hb; simp
      · have : ¬ k = b := fun e => hb e.symm
        simp [hb, this]
    · have ht : dHas t a = true := by simpa [dHas, hk] using h
      simp only [dSet, if_neg hk, dGetD]
      by_cases hkb : k = b
      · subst hkb
        have : ¬ k = a := hk
        simp [this]
      · simp only [if_neg hkb]; exact ih ht

theorem dHas_dSet (d : Dict) (a b : Agent) (v : Int) : dHas d b = true → dHas (dSet d a v) b = true := by
  induction d with
  | nil => simp [dHas]
  | cons p t ih =>
    obtain ⟨k, w⟩ := p
    intro h
    by_cases hk : k = a
    · simpa [dSet, hk, dHas] using h
    · by_cases hkb : k = b
      · subst hkb; simp [dSet, hk, dHas]
      · simp only [dSet, if_neg hk, dHas, if_neg hkb] at h ⊢
        exact ih h

theorem mem_dSet (d : Dict) (a : Agent) (v : Int) (p : Agent × Int) (hp : p ∈ dSet d a v) :
    p ∈ d ∨ p.2 = v := by
  induction d with
  | nil => simp [dSet] at hp; right; simp [hp]
  | cons e t ih =>
    obtain ⟨k, w⟩ := e
    by_cases hk : k = a
    · simp only [dSet, if_pos hk, List.mem_cons] at hp
      rcases hp with h | h
      · right; simp [h]
      · left; exact List.mem_cons_of_mem _ h
    · simp only [dSet, if_neg hk, List.mem_cons] at hp
      rcases hp with h | h
      · left; simp [h]
      · rcases ih h with h' | h'
        · left; exact List.mem_cons_of_mem _ h'
        · right; exact h'

theorem dGetD_zero (d : Dict) (a : Agent) : dGetD (d.map (fun p => (p.1, (0 : Int)))) a 0 = 0 := by
  induction d with
  | nil => rfl
  | cons p t ih =>
    simp only [List.map, dGetD]
    split
    · rfl
    · exact ih

theorem dHas_zero (d : Dict) (a : Agent) : dHas (d.map (fun p => (p.1, (0 : Int)))) a = dHas d a := by
  induction d with
  | nil => rfl
  | cons p t ih => simp only [List.map, dHas, ih]

theorem dGetD_nonneg (d : Dict) (a : Agent) (h : ∀ p ∈ d, 0 ≤ p.2) : 0 ≤ dGetD d a 0 := by
  induction d with
  | nil => simp [dGetD]
  | cons p t ih =>
    obtain ⟨k, w⟩ := p
    simp only [dGetD]
    split
    · exact h (k, w) List.mem_cons_self
    · exact ih (fun p hp => h p (List.mem_cons_of_mem _ hp))

theorem dGetD_mem (d : Dict) (a : Agent) (h : dHas d a = true) : (a, dGetD d a 0) ∈ d := by
  induction d with
  | nil => simp [dHas] at h
  | cons p t ih =>
    obtain ⟨k, w⟩ := p
    by_cases hk : k = a
    · subst hk; simp [dGetD]
    · have ht : dHas t a = true := by simpa [dHas, hk] using h
      simp only [dGetD, if_neg hk]
      exact List.mem_cons_of_mem _ (ih ht)

theorem dHas_filter_ne (d : Dict) (a b : Agent) (hab : a ≠ b) (h : dHas d a = true) :
    dHas (d.filter (fun p => !(p.1 == b))) a = true := by
  induction d with
  | nil => simp [dHas] at h
  | cons p d ih =>
    obtain ⟨k, w⟩ := p
    by_cases hka : k = a
    · subst hka
      have : (k == b) = false := by simpa using hab
      simp [this, dHas]
    · have hd : dHas d a = true := by simpa [dHas, hka] using h
      rw [List.filter_cons]
      split
      · simp only [dHas, if_neg hka]; exact ih hd
      · exact ih hd

theorem dictOfKeys_has (v : Int) (l : List Agent) (a : Agent) (h : a ∈ l) :
    dHas (dictOfKeys v l) a = true := by
  induction l with
  | nil => cases h
  | cons b t ih =>
    simp only [dictOfKeys, dHas]
    by_cases hb : b = a
    · simp [hb]
    · have hat : a ∈ t := by
        cases h with
        | head => exact absurd rfl hb
        | tail _ h => exact h
      simp only [if_neg hb]
      exact dHas_filter_ne _ a b (fun e => hb e.symm) (ih hat)

theorem dictOfKeys_val (v : Int) (l : List Agent) (p : Agent × Int) (h : p ∈ dictOfKeys v l) : p.2 = v := by
  induction l with
  | nil => simp [dictOfKeys] at h
  | cons b t ih =>
    simp only [dictOfKeys, List.mem_cons, List.mem_filter] at h
    rcases h with h | h
    · simp [h]
    · exact ih h.1

/-! ### `Next_refines_Pick` -/

theorem fqLoop_mem (s : State) (now aging : Int) (l : List Agent) (best : Option Agent) (bt : Int)
    (b : Agent) (h : fqLoop s now aging l best bt = some b) : b ∈ l ∨ best = some b := by
  induction l generalizing best bt with
  | nil => right; simpa [fqLoop] using h
  | cons a t ih =>
    simp only [fqLoop] at h
    split at h
    · rcases ih _ _ h with h' | h'
      · left; exact List.mem_cons_of_mem _ h'
      · left; simp at h'; simp [h']
    · rcases ih _ _ h with h' | h'
      · left; exact List.mem_cons_of_mem _ h'
      · right; exact h'

theorem orFirst_mem (best : Option Agent) (e : Agent) (l : List Agent)
    (h : ∀ b, best = some b → b ∈ l) (he : e ∈ l) : orFirst best e ∈ l := by
  unfold orFirst
  split
  · exact h _ rfl
  · exact he

theorem anyElig_false_of_eligible_nil {s : State} {m : Int} (h : eligible s m = []) : anyElig s m = false := by
  simp only [eligible, List.filter_eq_nil_iff] at h
  simp only [anyElig, List.any_eq_false]
  exact h

theorem anyElig_true_of_mem {s : State} {m : Int} {a : Agent} (h : a ∈ eligible s m) : anyElig s m = true := by
  simp only [eligible, List.mem_filter] at h
  simp only [anyElig, List.any_eq_true]
  exact ⟨a, h.1, h.2⟩

/-- the chosen agent in the non-reset branch is one of the eligible ones -/
theorem nextTurn_mem_eligible (fq : Bool) (aging m now : Int) (s : State) (e : Agent) (es : List Agent)
    (hq : s.queue ≠ []) (he : eligible s m = e :: es) :
    (nextTurn fq aging m now s).1 ∈ eligible s m ∧ (nextTurn fq aging m now s).2 ≠ .resetConsec := by
  unfold nextTurn
  cases hqq : s.queue with
  | nil => exact absurd hqq hq
  | cons q0 qs =>
    simp only [he]
    cases fq with
    | false => simp
    | true =>
      simp only [if_true]
      refine ⟨?_, by simp⟩
      apply orFirst_mem
      · intro b hb
        rcases fqLoop_mem _ _ _ _ _ _ _ hb with h | h
        · exact h
        · cases h
      · exact List.mem_cons_self

/-- **the exact `next_turn` refines the specification relation** (both policies, any clock,
any `aging_ms`, any allowance, any queue order, any dict contents). -/
theorem nextTurn_pick (fq : Bool) (aging m now : Int) (s : State) (hq : s.queue ≠ []) :
    pickB s m (nextTurn fq aging m now s).1 (nextTurn fq aging m now s).2 = true := by
  cases he : eligible s m with
  | nil =>
    have h0 := anyElig_false_of_eligible_nil he
    have : nextTurn fq aging m now s = (pyMin s.queue, .resetConsec) := by
      unfold nextTurn
      cases hqq : s.queue with
      | nil => exact absurd hqq hq
      | cons q0 qs => simp only [he]
    rw [this, pickB, h0, if_neg Bool.false_ne_true, beq_iff_eq.mpr rfl, beq_iff_eq.mpr rfl, Bool.and_self]
  | cons e es =>
    obtain ⟨h1, h2⟩ := nextTurn_mem_eligible fq aging m now s e es hq he
    have h0 := anyElig_true_of_mem h1
    simp only [eligible, List.mem_filter] at h1
    simp only [pickB, h0, if_true, Bool.and_eq_true, List.contains_iff_mem, Bool.not_eq_true',
      beq_eq_false_iff_ne, ne_eq]
    exact ⟨⟨h1.1, h1.2⟩, h2⟩

/-! ### the relational history over `pickB`, and its abstraction -/

/-- One specification-level step: a queued state, any `(a, r)` allowed by `Pick`, the real
bookkeeping `onYield` with any clock, then any permutation of the queue (rotation). -/
def PStep (m : Int) (s : State) (a : Agent) (s' : State) : Prop :=
  s.queue ≠ [] ∧ ∃ r now q', pickB s m a r = true ∧ q'.Perm s.queue ∧
    s' = { onYield s a now (r == .resetConsec) with queue := q' }

inductive PRun (m : Int) : State → List Agent → State → Prop
  | nil {s : State} : PRun m s [] s
  | cons {s s' s'' : State} {a : Agent} {tr : List Agent} :
      PStep m s a s' → PRun m s' tr s'' → PRun m s (a :: tr) s''

/-- invariant of reachable states relative to the fixed agent set `q` -/
structure Inv (q : List Agent) (m : Int) (s : State) : Prop where
  perm : s.queue.Perm q
  keys : ∀ a ∈ s.queue, dHas s.consec a = true
  lo : ∀ p ∈ s.consec, 0 ≤ p.2
  hi : ∀ p ∈ s.consec, p.2 ≤ m

def cOf (s : State) : Agent → Nat := fun a => (dGetD s.consec a 0).toNat

namespace Inv

/-- the invariant only looks at the queue up to order, at the key set and at the values of `consec` -/
theorem step {q : List Agent} {m : Int} {s s' : State} (hI : Inv q m s)
    (hperm : s'.queue.Perm s.queue) (hkeys : ∀ b, dHas s.consec b = true → dHas s'.consec b = true)
    (hval : ∀ p ∈ s'.consec, p ∈ s.consec ∨ 0 ≤ p.2 ∧ p.2 ≤ m) : Inv q m s' :=
  ⟨hperm.trans hI.perm, fun b hb => hkeys b (hI.keys b (hperm.mem_iff.1 hb)),
    fun p hp => (hval p hp).elim (hI.lo p) (·.1), fun p hp => (hval p hp).elim (hI.hi p) (·.2)⟩

end Inv

theorem pstep_abs {q : List Agent} {mn : Nat} {s s' : State} {a : Agent}
    (hI : Inv q (mn : Int) s) (hs : PStep (mn : Int) s a s') :
    AStep q mn (cOf s) a (cOf s') ∧ Inv q (mn : Int) s' := by
  obtain ⟨hq, r, now, q', hp, hperm, rfl⟩ := hs
  unfold pickB at hp
  by_cases hany : anyElig s (mn : Int) = true
  · -- somebody has allowance left: `a` is such an agent and its counter goes up by one
    rw [if_pos hany] at hp
    simp only [Bool.and_eq_true, List.contains_iff_mem, Bool.not_eq_true', beq_eq_false_iff_ne,
      ne_eq] at hp
    obtain ⟨⟨hmem, hel⟩, hr⟩ := hp
    have hrb : (r == Reason.resetConsec) = false := by simpa using hr
    have hkey := hI.keys a hmem
    have hlt : dGetD s.consec a 0 < (mn : Int) := by simpa [eligB] using hel
    have hge : 0 ≤ dGetD s.consec a 0 := dGetD_nonneg _ _ hI.lo
    have hcons : (onYield s a now false).consec = dSet s.consec a (dGetD s.consec a 0 + 1) := by
      simp [onYield, hkey]
    rw [hrb]
    refine ⟨?_, hI.step hperm (fun b hb => ?_) (fun p hp => ?_)⟩
    · have e : cOf { onYield s a now false with queue := q' } = upd (cOf s) a (cOf s a + 1) := by
        funext b
        show (dGetD (onYield s a now false).consec b 0).toNat =
          if b = a then (dGetD s.consec a 0).toNat + 1 else (dGetD s.consec b 0).toNat
        rw [hcons, dGetD_dSet _ _ _ _ _ hkey]
        by_cases hb : b = a
        · rw [if_pos hb, if_pos hb]; exact Int.toNat_add hge (by decide)
        · rw [if_neg hb, if_neg hb]
      rw [e]
      exact AStep.norm (hI.perm.mem_iff.1 hmem) ((Int.toNat_lt hge).2 hlt)
    · show dHas (onYield s a now false).consec b = true
      rw [hcons]; exact dHas_dSet _ _ _ _ hb
    · have hp' : p ∈ (onYield s a now false).consec := hp
      rw [hcons] at hp'
      exact (mem_dSet _ _ _ _ hp').imp id (fun h => by rw [h]; exact ⟨Int.add_nonneg hge (by decide), hlt⟩)
  · -- nobody has: `a = min(queue)` and every counter is zeroed
    have hany' : anyElig s (mn : Int) = false := by simpa using hany
    rw [hany'] at hp
    simp only [Bool.false_eq_true, if_false, Bool.and_eq_true, beq_iff_eq] at hp
    obtain ⟨ha, rfl⟩ := hp
    have hcons : (onYield s a now true).consec = s.consec.map (fun p => (p.1, (0 : Int))) := by
      simp [onYield]
    simp only [beq_iff_eq.mpr rfl]
    refine ⟨?_, hI.step hperm (fun b hb => ?_) (fun p hp => ?_)⟩
    · have e : cOf { onYield s a now true with queue := q' } = fun _ => 0 := by
        funext b
        simp only [cOf, hcons, dGetD_zero]
        rfl
      rw [e]
      refine AStep.reset (fun b hb => ?_) (ha ▸ hI.perm.mem_iff.1 (pyMin_mem hq))
      have := List.any_eq_false.1 hany' b (hI.perm.mem_iff.2 hb)
      simp only [eligB, decide_eq_true_eq] at this
      exact (Int.le_toNat (dGetD_nonneg _ b hI.lo)).2 (Int.not_lt.1 this)
    · show dHas (onYield s a now true).consec b = true
      rw [hcons, dHas_zero]; exact hb
    · have hp' : p ∈ (onYield s a now true).consec := hp
      rw [hcons] at hp'
      obtain ⟨_, _, rfl⟩ := List.mem_map.1 hp'
      exact .inr ⟨Int.le_refl 0, Int.natCast_nonneg mn⟩

theorem prun_abs {q : List Agent} {mn : Nat} {s s' : State} {tr : List Agent}
    (hI : Inv q (mn : Int) s) (hr : PRun (mn : Int) s tr s') :
    ARun q mn (cOf s) tr (cOf s') ∧ Inv q (mn : Int) s' := by
  induction hr with
  | nil => exact ⟨.nil, hI⟩
  | cons hs _ ih =>
    obtain ⟨h1, h2⟩ := pstep_abs hI hs
    obtain ⟨h3, h4⟩ := ih h2
    exact ⟨.cons h1 h3, h4⟩

/-! ### the executable history is a relational history -/

theorem rotate_perm (q : List Agent) (a : Agent) : (rotate q a).Perm q := by
  unfold rotate
  split
  · rename_i h
    have hm : a ∈ q := List.contains_iff_mem.1 h
    exact (List.perm_append_comm.trans (List.perm_cons_erase hm).symm)
  · exact List.Perm.refl _

@[simp] theorem onYield_queue (s : State) (a : Agent) (now : Int) (r : Bool) :
    (onYield s a now r).queue = s.queue := by
  unfold onYield; cases r <;> simp

theorem stepT_pstep (m : Int) (s : State) (t : Tick) (hq : s.queue ≠ []) :
    PStep m s (stepT m s t).2.1 (stepT m s t).1 := by
  refine ⟨hq, (nextTurn t.fq t.aging m t.nowPick s).2, t.nowYield, (stepT m s t).1.queue,
    nextTurn_pick _ _ _ _ _ hq, ?_, ?_⟩
  · simp only [stepT]
    split
    · exact (rotate_perm _ _).trans (by rw [onYield_queue])
    · rw [onYield_queue]
  · simp only [stepT]
    split <;> rfl

theorem stepT_queue_ne (m : Int) (s : State) (t : Tick) (hq : s.queue ≠ []) : (stepT m s t).1.queue ≠ [] := by
  obtain ⟨_, r, now, q', _, hperm, e⟩ := stepT_pstep m s t hq
  rw [e]
  intro h
  have h' : q' = [] := h
  rw [h'] at hperm
  exact hq (List.Perm.eq_nil hperm.symm)

theorem simulate_prun (m : Int) (s : State) (ts : List Tick) (hq : s.queue ≠ []) :
    PRun m s (simulate m s ts).1 (simulate m s ts).2 := by
  induction ts generalizing s with
  | nil => exact .nil
  | cons t ts ih =>
    simp only [simulate]
    exact .cons (stepT_pstep m s t hq) (ih _ (stepT_queue_ne m s t hq))

theorem init_inv (ids : List Agent) (now : Int) (m : Int) (hm : 0 ≤ m) :
    Inv (initState ids now).queue m (initState ids now) := by
  refine ⟨List.Perm.refl _, ?_, ?_, ?_⟩
  · intro a ha
    exact dictOfKeys_has 0 _ a ha
  · intro p hp
    have := dictOfKeys_val 0 _ p hp
    omega
  · intro p hp
    have := dictOfKeys_val 0 _ p hp
    omega

theorem init_queue_perm (ids : List Agent) (now : Int) : (initState ids now).queue.Perm ids :=
  Clem.Py.isort_perm _ ids

theorem maxGapAux_le (x : Agent) (B : Nat) (l : List Agent) (cur best : Nat) (hb : best ≤ B)
    (hw : ∀ pre w post, l = pre ++ w ++ post → x ∉ w → w.length ≤ B)
    (hp : ∀ w post, l = w ++ post → x ∉ w → cur + w.length ≤ B) :
    maxGapAux x l cur best ≤ B := by
  induction l generalizing cur best with
  | nil => exact Nat.max_le.2 ⟨hp [] [] rfl List.not_mem_nil, hb⟩
  | cons a t ih =>
    have hcur : cur ≤ B := hp [] (a :: t) rfl List.not_mem_nil
    -- a window of the tail is a window of the whole trace
    have hw' : ∀ pre w post, t = pre ++ w ++ post → x ∉ w → w.length ≤ B :=
      fun pre w post e hx => hw (a :: pre) w post (by subst e; rfl) hx
    rw [maxGapAux]
    by_cases hax : a = x
    · rw [if_pos hax]
      refine ih 0 _ (Nat.max_le.2 ⟨hcur, hb⟩) hw' fun w post e hx => ?_
      have := hw [a] w post (by subst e; rfl) hx
      omega
    · rw [if_neg hax]
      refine ih (cur + 1) best hb hw' fun w post e hx => ?_
      have : cur + (w.length + 1) ≤ B := hp (a :: w) post (by subst e; rfl)
        fun h => (List.mem_cons.1 h).elim (fun h' => hax h'.symm) hx
      omega

theorem maxGap_le (x : Agent) (B : Nat) (l : List Agent)
    (hw : ∀ pre w post, l = pre ++ w ++ post → x ∉ w → w.length ≤ B) : maxGap x l ≤ B := by
  apply maxGapAux_le x B l 0 0 (Nat.zero_le _) hw
  intro w post e hx
  have := hw [] w post (by simp [e]) hx
  omega

theorem firstYield_eq_findSome (b : Budgets) (l : List (Stage × Consumed)) :
    firstYield b l = l.findSome? (fun p => (shouldYield b p.2).map (p.1, ·)) := by
  induction l with
  | nil => rfl
  | cons p rest ih =>
    rw [firstYield, List.findSome?_cons, ← ih]
    cases shouldYield b p.2 <;> rfl

end Clem.Sched
