import Clem.Model.Valid
import Clem.Proofs.Sort

/-!
Helper lemmas for C14: soundness/exactness of the syntactic guard checker, coercion ranges,
permutation invariance of `_suggest_key` over `sorted(allowed)`, `split("\n")`/`"\n".join` round trip,
inputs whose keys are all strings.
-/

namespace Clem.Valid
open Clem.Py

/-- Away from NaN, `<`/`>=` and `<=`/`>` against an integer constant are complementary. -/
theorem geC_eq_not_ltC {v : Num} (hv : v ≠ .nan) (c : Int) : v.geC c = !v.ltC c := by
  have key (a : Int) : decide (c ≤ a) = !decide (a < c) := (decide_eq_decide.2 Int.not_lt).symm.trans decide_not
  cases v with
  | nan => cases hv rfl
  | int i => exact key i
  | flt fl _ => exact key fl
  | _ => rfl

theorem gtC_eq_not_leC {v : Num} (hv : v ≠ .nan) (c : Int) : v.gtC c = !v.leC c := by
  cases v with
  | nan => cases hv rfl
  | int i => exact (decide_eq_decide.2 Int.not_le).symm.trans decide_not
  | flt fl frac =>
    show (decide (c < fl) || (fl == c && frac)) = !(decide (fl < c) || (fl == c && !frac))
    by_cases h : fl = c
    · subst h
      rw [decide_eq_false (Int.lt_irrefl _), beq_iff_eq.mpr rfl, Bool.false_or, Bool.true_and, Bool.false_or,
        Bool.true_and, Bool.not_not]
    · rw [beq_false_of_ne h, Bool.false_and, Bool.false_and, Bool.or_false, Bool.or_false]
      have hlt : ¬fl < c ↔ c < fl :=
        ⟨fun h' => Int.lt_iff_le_and_ne.mpr ⟨Int.not_lt.mp h', Ne.symm h⟩, Int.lt_asymm⟩
      exact (decide_eq_decide.2 hlt).symm.trans decide_not
  | _ => rfl

theorem entails_sound (co : Co) (g : Gd) (d : Doc) (v : Num)
    (h : entails co g d = true) (hr : co.range v = true) (hg : g.eval v = false) :
    d.holds v = true := by
  have hv : co = .int → v ≠ .nan := by rintro rfl rfl; cases hr
  unfold entails at h
  split at h
  · rfl
  · simp only [Bool.and_eq_true, beq_iff_eq] at h
    obtain ⟨⟨⟨rfl, rfl⟩, rfl⟩, rfl⟩ := h
    exact Bool.not_eq_false' _ |>.mp hg
  · cases beq_iff_eq.mp h; exact Bool.not_eq_false' _ |>.mp hg
  · cases beq_iff_eq.mp h; exact Bool.not_eq_false' _ |>.mp hg
  · cases beq_iff_eq.mp h; exact Bool.not_eq_false' _ |>.mp hg
  · obtain ⟨h, hc⟩ := Bool.and_eq_true _ _ |>.mp h
    cases beq_iff_eq.mp h
    exact (geC_eq_not_ltC (hv (beq_iff_eq.mp hc)) _).trans (congrArg (!·) hg)
  · obtain ⟨h, hc⟩ := Bool.and_eq_true _ _ |>.mp h
    cases beq_iff_eq.mp h
    exact (gtC_eq_not_leC (hv (beq_iff_eq.mp hc)) _).trans (congrArg (!·) hg)
  · cases h

theorem exact_sound (g : Gd) (d : Doc) (v : Num)
    (h : exact g d = true) (hd : d.isNone = false) (hg : g.eval v = true) :
    d.holds v = false := by
  unfold exact at h
  split at h
  · cases hd
  · simp only [Bool.and_eq_true, beq_iff_eq] at h
    obtain ⟨⟨⟨rfl, rfl⟩, rfl⟩, rfl⟩ := h
    exact Bool.not_eq_true' _ |>.mp hg
  · cases beq_iff_eq.mp h; exact Bool.not_eq_true' _ |>.mp hg
  · cases beq_iff_eq.mp h; exact Bool.not_eq_true' _ |>.mp hg
  · cases beq_iff_eq.mp h; exact Bool.not_eq_true' _ |>.mp hg
  · cases beq_iff_eq.mp h
    exact (geC_eq_not_ltC (by rintro rfl; cases hg) _).trans (congrArg (!·) hg)
  · cases beq_iff_eq.mp h
    exact (gtC_eq_not_leC (by rintro rfl; cases hg) _).trans (congrArg (!·) hg)
  · cases h
theorem coerceInt_range (v : Option J) (d : Int) : Co.int.range (coerceInt v d) = true := by
  unfold coerceInt; split <;> rfl

theorem toFloat_range (n : Num) : Co.float.range n.toFloat = true := by
  cases n <;> rfl

theorem coerceFloat_range (v : Option J) (d : Int) : Co.float.range (coerceFloat v d) = true := by
  unfold coerceFloat
  split
  · rfl
  · split <;> rfl
  · next n hn => cases n <;> first | rfl | exact absurd rfl (hn _)
  · exact toFloat_range _
  · rfl

theorem coerce_range (c : Co) (v : Option J) (d : Int) : c.range (coerce c v d) = true := by
  cases c
  · exact coerceInt_range _ _
  · exact coerceFloat_range _ _

theorem NE_eval_range (e : Env) (c : Co) (n : NE) (h : n.allCo c = true) : c.range (n.eval e) = true := by
  induction n with
  | co c' v d =>
    simp only [NE.allCo, beq_iff_eq] at h; subst h
    exact coerce_range _ _ _
  | ite cnd a b iha ihb =>
    simp only [NE.allCo, Bool.and_eq_true] at h
    simp only [NE.eval]
    split
    · exact iha h.1
    · exact ihb h.2

/-- `_suggest_key` over `sorted(allowed)` does not depend on the iteration order of the set. -/
theorem suggestKey_perm (bad : Str) {σ τ : List Str} (h : σ.Perm τ) : suggestKey bad σ = suggestKey bad τ := by
  unfold suggestKey
  rw [isort_perm_invariant lexLe lexLe_total (fun _ _ _ => lexLe_trans) h (fun _ _ _ _ => lexLe_antisymm)]

theorem isAllowed_perm {σ τ : List Str} (h : σ.Perm τ) : ∀ k : K, k.isAllowed σ = k.isAllowed τ
  | .str _ => h.contains_eq
  | .other _ => rfl

theorem splitNl_eq_cons (s : Str) : ∃ h t, splitNl s = h :: t := by
  cases s with
  | nil => exact ⟨_, _, rfl⟩
  | cons c r =>
    rw [splitNl]
    by_cases hc : c = 10
    · exact ⟨_, _, if_pos hc⟩
    · rw [if_neg hc]
      cases splitNl r <;> exact ⟨_, _, rfl⟩

theorem joinNl_splitNl (s : Str) : joinNl (splitNl s) = s := by
  induction s with
  | nil => rfl
  | cons c r ih =>
    obtain ⟨h, t, hs⟩ := splitNl_eq_cons r
    rw [hs] at ih
    simp only [splitNl, hs]
    split
    · next hc => exact hc ▸ congrArg (10 :: ·) ih
    · cases t <;> exact congrArg (c :: ·) ih

theorem strKeysKV_lookup {kvs : List (K × J)} (h : strKeysKV kvs = true) {k : K} {v : J}
    (hl : lookupK k kvs = some v) : v.strKeys = true := by
  induction kvs with
  | nil => simp [lookupK] at hl
  | cons kv r ih =>
    simp only [strKeysKV, Bool.and_eq_true] at h
    simp only [lookupK] at hl
    split at hl
    · cases hl; exact h.1.2
    · exact ih h.2 hl

theorem strKeysKV_ensureDict {v : J} (h : v.strKeys = true) : strKeysKV (ensureDict v) = true := by
  cases v with
  | dict kvs => exact h
  | _ => rfl

theorem strKeysKV_walk {kvs : List (K × J)} (h : strKeysKV kvs = true) (p : List Str) :
    strKeysKV (walk kvs p) = true := by
  induction p generalizing kvs with
  | nil => exact h
  | cons s r ih =>
    simp only [walk]
    split
    · rename_i v hv
      exact ih (strKeysKV_ensureDict (strKeysKV_lookup h hv))
    · rfl

theorem strKeysKV_no_other {kvs : List (K × J)} (h : strKeysKV kvs = true) :
    kvs.any (fun kv => match kv.1 with
      | .other _ => true
      | .str _ => false) = false := by
  induction kvs with
  | nil => rfl
  | cons kv r ih =>
    simp only [strKeysKV, Bool.and_eq_true] at h
    simp only [List.any_cons, Bool.or_eq_false_iff]
    refine ⟨?_, ih h.2⟩
    cases hk : kv.1 with
    | str s => rfl
    | other o => rw [hk] at h; simp [K.isStr] at h

theorem strKeysKV_setK {kvs : List (K × J)} (h : strKeysKV kvs = true) {k : K} {v : J}
    (hk : k.isStr = true) (hv : v.strKeys = true) : strKeysKV (setK k v kvs) = true := by
  induction kvs with
  | nil => simp [setK, strKeysKV, hk, hv]
  | cons kv r ih =>
    simp only [strKeysKV, Bool.and_eq_true] at h
    simp only [setK]
    split
    · simp [strKeysKV, hk, hv, h.2]
    · simp [strKeysKV, h.1.1, h.1.2, ih h.2]

theorem strKeysKV_append {a b : List (K × J)} (ha : strKeysKV a = true) (hb : strKeysKV b = true) :
    strKeysKV (a ++ b) = true := by
  induction a with
  | nil => exact hb
  | cons kv r ih =>
    simp only [strKeysKV, Bool.and_eq_true] at ha
    simp [strKeysKV, ha.1.1, ha.1.2, ih ha.2]

theorem strKeysKV_cfgIn {cfg : J} (h : cfg.strKeys = true) (ver : Str) : strKeysKV (cfgIn cfg ver) = true := by
  have h0 := strKeysKV_ensureDict h
  unfold cfgIn
  simp only
  split
  · exact strKeysKV_setK h0 rfl rfl
  · exact strKeysKV_append h0 (by simp [strKeysKV, K.isStr, J.strKeys])
  · exact h0

theorem mem_unkRules {u : UnkRule} {rs : List Rule} (h : Rule.unk u ∈ rs) : u ∈ unkRules rs := by
  induction rs with
  | nil => cases h
  | cons r t ih =>
    rcases List.mem_cons.mp h with rfl | h'
    · exact List.mem_cons_self
    · cases r <;> simp [unkRules, ih h']

end Clem.Valid
