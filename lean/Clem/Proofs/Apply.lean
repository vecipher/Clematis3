import Clem.Model.Apply

/-! Lemmas behind C04: the call list of the store phase and what it commits, one turn of `runTurn`
and what a history adds up to, the arithmetic of cache invalidation. -/
namespace Clem.Apply

/-- `beq_self_eq_true` under `LawfulBEq`: that instance is found at once, while the search for `ReflBEq`
first wanders through the order classes. -/
theorem beq_self {α : Type} [BEq α] [LawfulBEq α] (a : α) : (a == a) = true := BEq.rfl

theorem stepDelta_calls (a : Acc) (d : Delta) (o : Outcome) :
    (stepDelta a d o).calls = a.calls ++ [[d]] := by
  cases o <;> rfl

theorem perDelta_calls (ds : List Delta) (sc : List Outcome) (a : Acc) :
    (perDelta ds sc a).calls = a.calls ++ singles ds := by
  induction ds generalizing sc a with
  | nil => simp [perDelta, singles]
  | cons d ds ih =>
    simp only [perDelta, ih, stepDelta_calls, singles, List.map_cons, List.append_assoc,
      List.cons_append, List.nil_append]

theorem flatten_singles (ds : List Delta) : (singles ds).flatten = ds := by
  induction ds with
  | nil => rfl
  | cons d ds ih => simp only [singles, List.map_cons, List.flatten_cons] at ih ⊢; rw [ih]; rfl

theorem storePhase_calls (ds : List Delta) (sc : List Outcome) :
    (storePhase ds sc).calls =
      if (headO sc).isRet then [ds] else [ds] ++ singles ds := by
  unfold storePhase
  cases h : headO sc with
  | ret e c => simp [Outcome.isRet]
  | raise => simp [Outcome.isRet, perDelta_calls]

theorem handoff_fn {i : In} (h : i.store = .fn) :
    handoff i = if (headO i.script).isRet then [i.deltas] else [i.deltas] ++ singles i.deltas := by
  rw [handoff, h]

theorem handoff_of_ne_fn {i : In} (h : i.store ≠ .fn) : handoff i = [] := by
  unfold handoff
  cases hs : i.store <;> first | rfl | exact absurd hs h

theorem committed_singles_sublist (ds : List Delta) (sc : List Outcome) :
    (committed (singles ds) sc).Sublist ds := by
  induction ds generalizing sc with
  | nil => simp [singles, committed]
  | cons d ds ih =>
    simp only [singles, List.map_cons, committed]
    by_cases h : (headO sc).isRet
    · simp only [h, if_true, List.cons_append, List.nil_append]
      exact List.Sublist.cons_cons _ (ih _)
    · simp only [h]
      exact List.Sublist.cons _ (ih _)

theorem committed_storePhase (ds : List Delta) (sc : List Outcome) :
    committed (storePhase ds sc).calls sc =
      if (headO sc).isRet then ds else committed (singles ds) sc.tail := by
  rw [storePhase_calls]
  by_cases h : (headO sc).isRet = true
  · rw [if_pos h, if_pos h, committed, if_pos h]; exact List.append_nil ds
  · rw [if_neg h, if_neg h, List.cons_append, committed, if_neg h]; rfl

theorem headO_wellFormed {sc : List Outcome} (h : ∀ o ∈ sc, o.wellFormed = true) :
    (headO sc).wellFormed = true := by
  cases sc with
  | nil => rfl
  | cons o r => exact h o (by simp)

theorem Outcome.wellFormed_cases {o : Outcome} (h : o.wellFormed = true) :
    o = .raise ∨ ∃ e c, o = .ret (.ok e) (.ok c) :=
  match o, h with
  | .raise, _ => Or.inl rfl
  | .ret (.ok e) (.ok c), _ => Or.inr ⟨e, c, rfl⟩

theorem stepDeltaLegacy_eq (a : Acc) (d : Delta) (o : Outcome) (h : o.wellFormed = true) :
    stepDeltaLegacy a d o = stepDelta a d o := by
  rcases Outcome.wellFormed_cases h with rfl | ⟨e, c, rfl⟩ <;> rfl

theorem perDeltaLegacy_eq (ds : List Delta) (sc : List Outcome) (a : Acc)
    (h : ∀ o ∈ sc, o.wellFormed = true) : perDeltaLegacy ds sc a = perDelta ds sc a := by
  induction ds generalizing sc a with
  | nil => rfl
  | cons d ds ih =>
    simp only [perDeltaLegacy, perDelta]
    rw [stepDeltaLegacy_eq _ _ _ (headO_wellFormed h)]
    exact ih _ _ (fun o ho => h o (List.mem_of_mem_tail ho))

/-- Version after `m` committed turns starting from `v`. -/
def verAfter : Ver → Nat → Ver
  | v, 0 => v
  | v, m + 1 => .num (bump v + m)

theorem verAfter_step (v : Ver) (m : Nat) : verAfter (.num (bump v)) m = verAfter v (m + 1) := by
  cases m with
  | zero => simp [verAfter]
  | succ k =>
    simp only [verAfter, bump, Ver.num.injEq]
    omega

theorem runTurn_off (s : HState) (t : TurnIn) (h : t.enabled = false) :
    runTurn s t = { s with cm := t2Insert s.cm } :=
  if_neg (h ▸ Bool.false_ne_true)

/-- What a committed turn does to each component; its store calls depend on the turn's input alone
(`toIn default t`). -/
theorem runTurn_on (s : HState) (t : TurnIn) (h : t.enabled = true) :
    (runTurn s t).ver = .num (bump s.ver) ∧ (runTurn s t).t4recs = s.t4recs + 1 ∧
    (runTurn s t).applyRecs.length = s.applyRecs.length + 1 ∧
    (runTurn s t).calls = s.calls ++ (apply (toIn default t)).calls ∧
    (runTurn s t).applyRecs.getLast? = some ⟨(apply (toIn s t)).version, (apply (toIn s t)).applied,
      (apply (toIn s t)).clamps, (apply (toIn s t)).invalidated, (apply (toIn s t)).snap.isSome⟩ ∧
    (runTurn s t).cm = (apply (toIn s t)).cm ∧
    (runTurn s t).snap =
      match (apply (toIn s t)).snap with
      | some r => some r
      | none => s.snap := by
  rw [runTurn, if_pos h]
  exact ⟨rfl, rfl, List.length_append, rfl, List.getLast?_concat .., rfl, rfl⟩

/-- What a history adds up to is decided by its committed turns alone; a kill-switch turn adds
nothing. -/
theorem runHistory_committed (s : HState) (ts : List TurnIn) :
    (runHistory s ts).ver = verAfter s.ver (committedTurns ts) ∧
    (runHistory s ts).t4recs = s.t4recs + committedTurns ts ∧
    (runHistory s ts).applyRecs.length = s.applyRecs.length + committedTurns ts ∧
    (runHistory s ts).calls =
      s.calls ++ (ts.filter (·.enabled)).flatMap fun t => (apply (toIn default t)).calls := by
  induction ts generalizing s with
  | nil => exact ⟨rfl, rfl, rfl, (List.append_nil _).symm⟩
  | cons t ts ih =>
    have e : runHistory s (t :: ts) = runHistory (runTurn s t) ts := rfl
    by_cases h : t.enabled = true
    · obtain ⟨h1, h2, h3, h4⟩ := ih (runTurn s t)
      obtain ⟨a, b, c, d, _⟩ := runTurn_on s t h
      rw [e, committedTurns, List.filter_cons_of_pos h]
      exact ⟨h1.trans (a ▸ verAfter_step _ _), h2.trans (b ▸ Nat.add_right_comm ..),
        h3.trans (c ▸ Nat.add_right_comm ..), h4.trans (d ▸ List.append_assoc ..)⟩
    · rw [e, runTurn_off s t (Bool.eq_false_iff.2 h), committedTurns, List.filter_cons_of_neg h]
      exact ih _

theorem Cache.size_nil (ns : Nat) : Cache.size [] ns = 0 := rfl
theorem Cache.total_nil : Cache.total [] = 0 := rfl
theorem Cache.clear_nil (ns : Nat) : Cache.clear [] ns = [] := rfl

theorem Cache.size_cons (p : Nat × Nat) (c : Cache) (ns : Nat) :
    Cache.size (p :: c) ns = (if p.1 == ns then p.2 else 0) + Cache.size c ns := by
  rw [Cache.size, List.filter_cons]
  by_cases h : (p.1 == ns) = true
  · rw [if_pos h, if_pos h]; rfl
  · rw [if_neg h, if_neg h]; exact (Nat.zero_add _).symm

theorem Cache.total_cons (p : Nat × Nat) (c : Cache) :
    Cache.total (p :: c) = p.2 + Cache.total c := rfl

theorem Cache.clear_cons (p : Nat × Nat) (c : Cache) (ns : Nat) :
    Cache.clear (p :: c) ns = (if p.1 == ns then (p.1, 0) else p) :: Cache.clear c ns := rfl

theorem Cache.clear_total (c : Cache) (ns : Nat) : (c.clear ns).total + c.size ns = c.total := by
  induction c with
  | nil => rfl
  | cons p c ih =>
    rw [Cache.clear_cons, Cache.total_cons, Cache.size_cons, Cache.total_cons, ← ih]
    by_cases h : (p.1 == ns) = true
    · rw [if_pos h, if_pos h]; exact (congrArg (· + _) (Nat.zero_add _)).trans (Nat.add_left_comm ..)
    · rw [if_neg h, if_neg h, Nat.zero_add]; exact Nat.add_assoc ..

theorem Cache.size_clear (c : Cache) (a b : Nat) :
    (c.clear a).size b = if a = b then 0 else c.size b := by
  induction c with
  | nil => exact (ite_self _).symm
  | cons p c ih =>
    rw [Cache.clear_cons, Cache.size_cons, Cache.size_cons, ih]
    by_cases hab : a = b
    · subst hab
      by_cases hp : (p.1 == a) = true <;> simp [hp]
    · by_cases hp : (p.1 == a) = true
      · have : ¬ a = b := hab
        rw [beq_iff_eq] at hp
        subst hp
        simp [this]
      · simp [hp, hab]

theorem invLoop_count (f : Option Nat) (i : Nat) (nss : List Nat) (c : Cache) (acc : Nat) :
    (invLoop f i nss c acc).2 + (invLoop f i nss c acc).1.total = acc + c.total := by
  induction nss generalizing i c acc with
  | nil => rfl
  | cons ns rest ih =>
    rw [invLoop]
    by_cases h : (f == some i) = true
    · rw [if_pos h]
    · rw [if_neg h, ih, Nat.add_assoc, Nat.add_comm (c.size ns), Cache.clear_total]

/-- The entries of a namespace are all dropped, and it was listed; or they are all still there,
and, if no call failed, it was not listed. -/
theorem invLoop_size (f : Option Nat) (i : Nat) (nss : List Nat) (c : Cache) (acc b : Nat) :
    (invLoop f i nss c acc).1.size b = 0 ∧ b ∈ nss ∨
    (invLoop f i nss c acc).1.size b = c.size b ∧ (f = none → b ∉ nss) := by
  induction nss generalizing i c acc with
  | nil => exact Or.inr ⟨rfl, fun _ => List.not_mem_nil⟩
  | cons ns rest ih =>
    rw [invLoop]
    by_cases h : (f == some i) = true
    · rw [if_pos h]
      exact Or.inr ⟨rfl, fun e => by rw [e] at h; cases h⟩
    · rw [if_neg h]
      rcases ih (i + 1) (c.clear ns) (acc + c.size ns) with ⟨h0, hm⟩ | ⟨he, hn⟩
      · exact Or.inl ⟨h0, List.mem_cons_of_mem _ hm⟩
      · rw [Cache.size_clear] at he
        by_cases hb : ns = b
        · rw [if_pos hb] at he
          exact Or.inl ⟨he, hb ▸ List.mem_cons_self ..⟩
        · rw [if_neg hb] at he
          exact Or.inr ⟨he, fun e hm => (List.mem_cons.1 hm).elim (fun e' => hb e'.symm) (hn e)⟩

theorem invPhase_active (i : In) (c : Cache) (ha : invActive i = true) (h : i.cm = some c) :
    invPhase i = (some (invOn i c).1, (invOn i c).2) := by
  simp [invPhase, ha, h]

theorem invPhase_inactive (i : In) (ha : invActive i = false) : invPhase i = (i.cm, 0) := by
  simp [invPhase, ha]

theorem invPhase_none (i : In) (h : i.cm = none) : invPhase i = (none, 0) := by
  unfold invPhase; split <;> simp [h]

theorem apply_cm (i : In) : (apply i).cm = (invPhase i).1 := rfl
theorem apply_invalidated (i : In) : (apply i).invalidated = (invPhase i).2 := rfl

theorem apply_snap (i : In) :
    (apply i).snap =
      if shouldSnapshot i.turn i.every then some ⟨bump i.ver, (apply i).applied, snapDeltas i⟩ else none := by
  unfold apply
  rfl

theorem specInvalidate_congr (i : In) (o o' : Out) (h1 : o.cm = o'.cm) (h2 : o.invalidated = o'.invalidated) :
    specInvalidate i o = specInvalidate i o' := by
  unfold specInvalidate; rw [h1, h2]

end Clem.Apply
