/-
Lemmas about the composed turn model (`Clem/Model/Compose.lean`): the fold laws of a history and the induction over
it, the fields of a turn output and of the next state as equations, the T2 section with the orchestrator's cache
(off, hit, miss) and the invariant that cached results are results of the T2 model, the hand-off to Apply, versions
and the GEL store over a history.  The stage packages are imported so that the files on top can apply their theorems.
-/
import Clem.Model.Compose
import Clem.Props.C03
import Clem.Props.C04
import Clem.Props.C11
import Clem.Props.C12
import Clem.Props.C13.Rag

set_option linter.unusedSectionVars false

namespace Clem.Compose

section
variable {α : Type} [Clem.T1.Num α] [Clem.T2.Num α] [Clem.T3.PyOrd α] [Clem.Py.Num α] [Clem.Py.NumGel α]
variable (w : World α) (c : Cfg α)

section fold
variable (wf : TurnIn α → World α)

/-- one step of a history in which each turn sees the world `wf` gives it: `stepHist w c` for the constant `w`,
`stepHistMA w c` for `wFor w` -/
def stepW (h : Hist α) (t : TurnIn α × Oracles α) : Hist α :=
  let o := runTurn (wf t.1) c h.state t.1 t.2
  ⟨h.outs ++ [o], o.state⟩

theorem foldl_stepW (ts : List (TurnIn α × Oracles α)) (h : Hist α) :
    ts.foldl (stepW c wf) h =
      ⟨h.outs ++ (ts.foldl (stepW c wf) ⟨[], h.state⟩).outs, (ts.foldl (stepW c wf) ⟨[], h.state⟩).state⟩ := by
  induction ts generalizing h with
  | nil => simp
  | cons t ts ih =>
    rw [List.foldl_cons, List.foldl_cons, ih, ih (stepW c wf ⟨[], h.state⟩ t)]
    simp [stepW, List.append_assoc]

theorem foldl_stepW_cons (s : State α) (t : TurnIn α × Oracles α) (ts : List (TurnIn α × Oracles α)) :
    (t :: ts).foldl (stepW c wf) ⟨[], s⟩ =
      ⟨runTurn (wf t.1) c s t.1 t.2 :: (ts.foldl (stepW c wf) ⟨[], (runTurn (wf t.1) c s t.1 t.2).state⟩).outs,
       (ts.foldl (stepW c wf) ⟨[], (runTurn (wf t.1) c s t.1 t.2).state⟩).state⟩ := by
  rw [List.foldl_cons, foldl_stepW]
  rfl

/-- the induction over a history: what every turn keeps holds at the end, and of the state every output was computed on -/
theorem foldl_stepW_inv {P : State α → Prop} (step : ∀ s t o, P s → P (nextState (wf t) c s t o)) {s : State α}
    (hs : P s) (ts : List (TurnIn α × Oracles α)) :
    P (ts.foldl (stepW c wf) ⟨[], s⟩).state ∧
      ∀ o ∈ (ts.foldl (stepW c wf) ⟨[], s⟩).outs, ∃ s' t, P s' ∧ t ∈ ts ∧ o = runTurn (wf t.1) c s' t.1 t.2 := by
  induction ts generalizing s with
  | nil => exact ⟨hs, fun _ h => nomatch h⟩
  | cons t ts ih =>
    rw [foldl_stepW_cons]
    obtain ⟨h1, h2⟩ := ih (step s t.1 t.2 hs)
    refine ⟨h1, fun o h => ?_⟩
    rcases List.mem_cons.1 h with h | h
    · exact ⟨s, t, hs, List.mem_cons_self, h⟩
    · obtain ⟨s', t', hg, ht, he⟩ := h2 o h
      exact ⟨s', t', hg, List.mem_cons_of_mem _ ht, he⟩

end fold

theorem runTurns_nil (s : State α) : runTurns w c s [] = ⟨[], s⟩ := rfl

theorem runTurns_cons (s : State α) (t : TurnIn α × Oracles α) (ts : List (TurnIn α × Oracles α)) :
    runTurns w c s (t :: ts) =
      ⟨runTurn w c s t.1 t.2 :: (runTurns w c (runTurn w c s t.1 t.2).state ts).outs,
       (runTurns w c (runTurn w c s t.1 t.2).state ts).state⟩ :=
  foldl_stepW_cons c (fun _ => w) s t ts

theorem runTurns_append (s : State α) (ts₁ ts₂ : List (TurnIn α × Oracles α)) :
    runTurns w c s (ts₁ ++ ts₂) =
      ⟨(runTurns w c s ts₁).outs ++ (runTurns w c (runTurns w c s ts₁).state ts₂).outs,
       (runTurns w c (runTurns w c s ts₁).state ts₂).state⟩ := by
  show (ts₁ ++ ts₂).foldl (stepW c fun _ => w) ⟨[], s⟩ = _
  rw [List.foldl_append, foldl_stepW]
  rfl

theorem outs_length (s : State α) (ts : List (TurnIn α × Oracles α)) :
    (runTurns w c s ts).outs.length = ts.length := by
  induction ts generalizing s with
  | nil => rfl
  | cons t ts ih => rw [runTurns_cons]; simp [ih]

variable (s : State α) (t : TurnIn α) (o : Oracles α)

theorem runTurn_state : (runTurn w c s t o).state = nextState w c s t o := rfl

theorem runTurns_inv {P : State α → Prop} (step : ∀ s t o, P s → P (nextState w c s t o)) {s : State α} (hs : P s)
    (ts : List (TurnIn α × Oracles α)) :
    P (runTurns w c s ts).state ∧
      ∀ o ∈ (runTurns w c s ts).outs, ∃ s' t, P s' ∧ t ∈ ts ∧ o = runTurn w c s' t.1 t.2 :=
  foldl_stepW_inv c (fun _ => w) step hs ts

theorem mem_outs {s : State α} {ts : List (TurnIn α × Oracles α)} {o : TurnOut α}
    (h : o ∈ (runTurns w c s ts).outs) : ∃ s' t, t ∈ ts ∧ o = runTurn w c s' t.1 t.2 := by
  obtain ⟨s', t, _, ht, he⟩ := (runTurns_inv w c (P := fun _ => True) (fun _ _ _ _ => trivial) trivial ts).2 o h
  exact ⟨s', t, ht, he⟩

theorem runTurn_t1 : (runTurn w c s t o).t1 = t1Run (t1Cfg c) (t1Graphs w) t.text s.t1c := rfl
theorem runTurn_t2 : (runTurn w c s t o).t2 = t2Of w c s t o := rfl
theorem runTurn_t4 : (runTurn w c s t o).t4 =
    if c.t4Enabled && reach w c s t o 2 then some (t4Of w c s t o) else none := rfl
theorem runTurn_t4in : (runTurn w c s t o).t4in =
    if c.t4Enabled && reach w c s t o 2 then some (t4InOf w c s t o) else none := rfl
theorem runTurn_deltas : (runTurn w c s t o).deltas = (t4InOf w c s t o).deltas := rfl
theorem runTurn_t2Calls : (runTurn w c s t o).t2Calls =
    (if reach w c s t o 0 && !(t2Stage w c s t o).hit then 1 else 0) +
    (if reach w c s t o 2 then (ragOf w c s t o).calls else 0) := rfl
theorem runTurn_apply : (runTurn w c s t o).apply =
    if commits w c s t o then some (applyOf w c s t o) else none := rfl
theorem apply_eq_some {a : Clem.Apply.Out} :
    (runTurn w c s t o).apply = some a ↔ commits w c s t o = true ∧ applyOf w c s t o = a := by
  rw [runTurn_apply]
  by_cases h : commits w c s t o = true
  · rw [if_pos h, Option.some.injEq]; exact ⟨fun e => ⟨h, e⟩, fun e => e.2⟩
  · rw [if_neg h]; exact ⟨fun e => (nomatch e), fun e => absurd e.1 h⟩
theorem runTurn_yielded : (runTurn w c s t o).yielded = yieldOf w c s t o := rfl
theorem runTurn_ops : (runTurn w c s t o).ops = if reach w c s t o 2 then (planFinal w c s t o).ops else [] := rfl
theorem runTurn_utter : (runTurn w c s t o).utter = utterOfTurn w c s t o := rfl
theorem runTurn_line : (runTurn w c s t o).line =
    if (yieldOf w c s t o).isSome || (t.dryRun && c.t4Enabled) then utterOfTurn w c s t o
    else finalLine (utterOfTurn w c s t o) t.text := rfl
theorem runTurn_gelObs : (runTurn w c s t o).gelObs =
    if gelObsOn w c s t o then some (gelObsOut w c s t o) else none := rfl
theorem runTurn_gelTick : (runTurn w c s t o).gelTick =
    if gelTickOn w c s t o then some (gelTickOut w c s t o) else none := rfl
theorem runTurn_storeCalls : (runTurn w c s t o).storeCalls =
    if commits w c s t o then callsOf (t4Of w c s t o).approved (applyOf w c s t o).calls else [] := rfl

theorem t4Of_eq : t4Of w c s t o = Clem.T4.t4 c.sqrt c.thr (t4InOf w c s t o) := rfl
theorem t4InOf_k : (t4InOf w c s t o).k = c.churn := rfl
theorem t4InOf_capL2 : (t4InOf w c s t o).capL2 = c.capL2 := rfl
theorem t4InOf_capNov : (t4InOf w c s t o).capNov = c.capNov := rfl

theorem t1Run_nil (c1 : Clem.T1.Cfg α) (gs : List (Clem.T1.Graph α)) (text : Str) :
    t1Run c1 gs text [] = Clem.T1.t1 c1 gs text := by
  have : t1Pre ([] : List ((Nat × List Nat) × Clem.T1.GRes α)) gs text = [] :=
    List.flatMap_eq_nil_iff.2 fun _ _ => rfl
  unfold t1Run Clem.T1.t1
  rw [this, ite_self]
  rfl

theorem nextState_w : (nextState w c s t o).w =
    if commits w c s t o then (storeBatch c s.w (t4Of w c s t o).approved).w else s.w := by
  unfold nextState; rfl
theorem nextState_ver : (nextState w c s t o).ver =
    if commits w c s t o then .num (applyOf w c s t o).version else s.ver := by
  unfold nextState; rfl
theorem nextState_t1c : (nextState w c s t o).t1c = t1cNext w c s t := rfl
theorem nextState_orch : (nextState w c s t o).orch = orchNext w c s t o := by
  unfold nextState; rfl
theorem nextState_orchH : (nextState w c s t o).orchH =
    if !reach w c s t o 0 then s.orchH
    else if commits w c s t o && c.bust && c.orchCacheOn then [] else (t2Stage w c s t o).orchH := by
  unfold nextState; rfl
theorem nextState_gel : (nextState w c s t o).gel = Clem.Gel.run c.gel c.pw s.gel (gelOps w c s t o) := by
  unfold nextState; rfl
theorem nextState_memN : (nextState w c s t o).memN = s.memN + (reflOut w c s t o).written.length := rfl
/-- keys that digest to the same cache key agree on version and text, agent, T1 delta ids and index version -/
theorem okeyEq_fields {a b : OrchKey α} (h : okeyEq a b = true) :
    a.1 = b.1 ∧ a.2.agent = b.2.agent ∧ a.2.ids = b.2.ids ∧ a.2.indexVer = b.2.indexVer := by
  unfold okeyEq at h
  simp only [Bool.and_eq_true, beq_iff_eq] at h
  exact ⟨h.1.1.1.1, h.1.1.1.2, h.1.1.2, h.1.2⟩

theorem t2Stage_off (h : c.orchCacheOn = false) :
    (t2Stage w c s t o).out = (t2Call w c o s.gel (qOf w c s t) s.mem).getD (emptyT2 c) ∧
    (t2Stage w c s t o).hit = false ∧ (t2Stage w c s t o).orch = s.orch ∧ (t2Stage w c s t o).orchH = s.orchH := by
  unfold t2Stage
  simp only [h]
  exact ⟨rfl, rfl, rfl, rfl⟩

theorem t2Stage_hit (h : c.orchCacheOn = true) {e : OrchKey α × Clem.T2.Out α}
    (hf : s.orch.find? (fun e => okeyEq e.1 (orchKey w c s t)) = some e) :
    (t2Stage w c s t o).out = e.2 ∧ (t2Stage w c s t o).hit = true ∧ (t2Stage w c s t o).orch = s.orch := by
  unfold t2Stage
  simp only [h, hf]
  exact ⟨rfl, rfl, rfl⟩

theorem t2Stage_miss (h : c.orchCacheOn = true)
    (hf : s.orch.find? (fun e => okeyEq e.1 (orchKey w c s t)) = none) :
    (t2Stage w c s t o).out = (t2Call w c o s.gel (qOf w c s t) s.mem).getD (emptyT2 c) ∧
    (t2Stage w c s t o).hit = false ∧
    (t2Stage w c s t o).orch = s.orch ++ [(orchKey w c s t, (t2Stage w c s t o).out)] := by
  unfold t2Stage
  simp only [h, hf]
  exact ⟨rfl, rfl, rfl⟩

/-- under `owner_scope = agent` whatever is visible to agent `a` is owned by `a` -/
theorem owner_of_visible {scope : Nat} {a : Str} {e : Clem.T2.Ep α} (hs : scope = 1)
    (h : Clem.T2.visible (Clem.T2.ownerForQuery scope (some a)) e = true) : e.owner = .str a := by
  subst hs
  exact eq_of_beq h

/-! ### T2 results (fresh or served by the orchestrator's cache) are results of the T2 stage model -/

/-- `x` is the T2 model's answer for some oracle entry of this world and configuration, or the empty answer -/
def T2Good (x : Clem.T2.Out α) : Prop :=
  x = emptyT2 c ∨ ∃ (o : Oracles α) (qo : QOracle α) (h : Clem.T2.HCfg α) (q : Clem.T2.QCfg α)
      (mem : List Clem.Refl.Written),
    x = Clem.T2.t2 (t2Cfg w c o qo) c.tiers (withCos (epsAt w mem o) qo.cos) h q (t2K c) c.residualCap (gnodes w)

/-- every entry of the orchestrator's cache is such an answer (true of the empty cache, kept by every turn) -/
def GoodState (s : State α) : Prop := ∀ e ∈ s.orch, T2Good w c e.2

theorem fresh_good (g : Clem.Gel.State α) (q : Str) (mem : List Clem.Refl.Written) :
    T2Good w c ((t2Call w c o g q mem).getD (emptyT2 c)) := by
  unfold t2Call
  cases lookupQ o q with
  | none => exact .inl rfl
  | some qo => exact .inr ⟨o, qo, hybOf c g, qualOf c qo, mem, rfl⟩

theorem t2Stage_cases :
    (∃ e ∈ s.orch, okeyEq e.1 (orchKey w c s t) = true ∧ (t2Stage w c s t o).out = e.2 ∧
      (t2Stage w c s t o).hit = true ∧ (t2Stage w c s t o).orch = s.orch) ∨
    ((t2Stage w c s t o).out = (t2Call w c o s.gel (qOf w c s t) s.mem).getD (emptyT2 c) ∧
      (t2Stage w c s t o).hit = false ∧
      ((t2Stage w c s t o).orch = s.orch ∨
       (t2Stage w c s t o).orch =
         s.orch ++ [(orchKey w c s t, (t2Call w c o s.gel (qOf w c s t) s.mem).getD (emptyT2 c))])) := by
  by_cases hon : c.orchCacheOn = true
  · cases hf : s.orch.find? (fun e => okeyEq e.1 (orchKey w c s t)) with
    | some e => exact .inl ⟨e, List.mem_of_find?_eq_some hf, List.find?_some (p := fun e : OrchKey α × Clem.T2.Out α => okeyEq e.1 (orchKey w c s t)) hf,
        t2Stage_hit w c s t o hon hf⟩
    | none =>
      obtain ⟨h1, h2, h3⟩ := t2Stage_miss w c s t o hon hf
      exact .inr ⟨h1, h2, .inr (h1 ▸ h3)⟩
  · obtain ⟨h1, h2, h3, _⟩ := t2Stage_off w c s t o (Bool.eq_false_iff.2 hon)
    exact .inr ⟨h1, h2, .inl h3⟩

theorem t2Of_of_miss {qo : QOracle α} (hh : (t2Stage w c s t o).hit = false)
    (hq : lookupQ o (qOf w c s t) = some qo) :
    t2Of w c s t o =
      Clem.T2.t2 (t2Cfg w c o qo) c.tiers (withCos (epsAt w s.mem o) qo.cos) (hybOf c s.gel) (qualOf c qo) (t2K c)
        c.residualCap (gnodes w) := by
  unfold t2Of
  rcases t2Stage_cases w c s t o with ⟨_, _, _, _, h, _⟩ | ⟨h, _⟩
  · rw [h] at hh; cases hh
  · rw [h]; unfold t2Call; rw [hq]; rfl

theorem mem_orchNext {e : OrchKey α × Clem.T2.Out α} (he : e ∈ orchNext w c s t o) :
    e ∈ s.orch ∨ e = (orchKey w c s t, (t2Call w c o s.gel (qOf w c s t) s.mem).getD (emptyT2 c)) := by
  unfold orchNext at he
  by_cases h0 : (!reach w c s t o 0) = true
  · rw [if_pos h0] at he; exact .inl he
  rw [if_neg h0] at he
  by_cases hb : (commits w c s t o && c.bust && c.orchCacheOn) = true
  · rw [if_pos hb] at he; cases he
  rw [if_neg hb] at he
  rcases t2Stage_cases w c s t o with ⟨_, _, _, _, _, h⟩ | ⟨_, _, h | h⟩
  · exact .inl (h ▸ he)
  · exact .inl (h ▸ he)
  · rw [h] at he
    exact (List.mem_append.1 he).imp_right List.mem_singleton.1

theorem t2Of_good (hs : GoodState w c s) : T2Good w c (t2Of w c s t o) := by
  unfold t2Of
  rcases t2Stage_cases w c s t o with ⟨e, he, _, h, _⟩ | ⟨h, _⟩
  · exact h ▸ hs e he
  · exact h ▸ fresh_good w c o _ _ _

theorem nextState_good (hs : GoodState w c s) : GoodState w c (nextState w c s t o) := by
  intro e he
  rcases mem_orchNext w c s t o he with h | h
  · exact hs e h
  · exact h ▸ fresh_good w c o _ _ _

theorem plan0Of_ops : (plan0Of w c s t o).ops =
    if t3On c t then Clem.T3.deliberate (bundleOf w c s t o) ++ (if t.hook then t.hookOps else []) else [] := by
  unfold plan0Of planOf
  by_cases h3 : t3On c t = true
  · rw [if_pos h3, if_pos h3]
    by_cases hh : t.hook = true
    · rw [if_pos hh, if_pos hh]
    · rw [if_neg hh, if_neg hh, List.append_nil]
  · rw [if_neg h3, if_neg h3]

theorem ragStep_deltas_calls (labels : List Str) (b : Clem.T3.Bundle α) (p : PlanSt α) (g : Clem.Gel.State α)
    (mem : List Clem.Refl.Written) :
    ((ragStep w c o t labels b p g mem).plan.deltas = p.deltas ∨ (ragStep w c o t labels b p g mem).plan.deltas = []) ∧
    (ragStep w c o t labels b p g mem).calls ≤ 1 := by
  unfold ragStep
  by_cases h : (p.ops.any Clem.T3.Op.isRetrieve && decide (1 ≤ c.maxRagLoops)) = true
  · rw [if_pos h]
    refine ⟨?_, Clem.Props.C13.C13_rag_calls_le_one _ _ _ _⟩
    dsimp only
    generalize Clem.T3.ragOnce (α := α) _ _ _ false = r
    cases r.ragUsed
    · exact .inl rfl
    · exact .inr rfl
  · rw [if_neg h]; exact ⟨.inl rfl, Nat.zero_le _⟩

/-- the deltas T4 sees are the planner hook's, or none (stock planner / refined plan / T3 skipped) -/
theorem t4_deltas_from_hook : (t4InOf w c s t o).deltas = t.hookDeltas ∨ (t4InOf w c s t o).deltas = [] := by
  show (ragOf w c s t o).plan.deltas = _ ∨ (ragOf w c s t o).plan.deltas = []
  have hp : (plan0Of w c s t o).deltas = t.hookDeltas ∨ (plan0Of w c s t o).deltas = [] := by
    unfold plan0Of planOf
    by_cases h3 : t3On c t = true
    · rw [if_pos h3]
      by_cases hh : t.hook = true
      · rw [if_pos hh]; exact .inl rfl
      · rw [if_neg hh]; exact .inr rfl
    · rw [if_neg h3]; exact .inr rfl
  unfold ragOf
  by_cases h3 : t3On c t = true
  · rw [if_pos h3]
    rcases (ragStep_deltas_calls w c t o _ _ (plan0Of w c s t o) _ _).1 with h | h
    · rw [h]; exact hp
    · exact .inr h
  · rw [if_neg h3]; exact hp

theorem rag_calls_le_one : (ragOf w c s t o).calls ≤ 1 := by
  unfold ragOf
  by_cases h3 : t3On c t = true
  · rw [if_pos h3]; exact (ragStep_deltas_calls w c t o _ _ _ _ _).2
  · rw [if_neg h3]; exact Nat.zero_le _

theorem filterMap_range_getElem? {β : Type} (l : List β) :
    (List.range l.length).filterMap (fun i => l[i]?) = l := by
  induction l with
  | nil => rfl
  | cons a l ih =>
    rw [List.length_cons, List.range_succ_eq_map, List.filterMap_cons, List.filterMap_map]
    exact congrArg (a :: ·) ih

/-- the store double receives one batch: the approved list itself -/
theorem calls_once (ap : List (Clem.T4.Delta α)) (n : Nat) :
    callsOf ap (Clem.Apply.apply (applyIn c s t ap n)).calls = [ap] := by
  rw [Clem.Apply.C04_handoff_batch_ok (applyIn c s t ap n) rfl rfl]
  show [(List.range ap.length).filterMap (fun i => ap[i]?)] = [ap]
  rw [filterMap_range_getElem?]

/-- Apply bumps the version whatever the store answered -/
theorem applyOf_version : (applyOf w c s t o).version = Clem.Apply.bump s.ver := rfl

theorem snapBody_eq_some {b : Clem.Py.JV.J α} : snapBody w c s t o = some b ↔
    (commits w c s t o = true ∧ (applyOf w c s t o).snap.isSome = true) ∧
      Clem.Snap.payloadOf c.wops c.cv c.snapB (snapIn w c s t o) = b := by
  unfold snapBody
  by_cases h : (commits w c s t o && (applyOf w c s t o).snap.isSome) = true
  · rw [if_pos h]
    exact ⟨fun hb => ⟨Bool.and_eq_true_iff.1 h, Option.some.inj hb⟩, fun hb => congrArg some hb.2⟩
  · rw [if_neg h]
    exact ⟨fun hb => (nomatch hb), fun hb => absurd (Bool.and_eq_true_iff.2 hb.1) h⟩

/-- number of turns of the history that hand their approved list to Apply (gates open, no yield before Apply) -/
def commitCount : State α → List (TurnIn α × Oracles α) → Nat
  | _, [] => 0
  | s, t :: ts => (if commits w c s t.1 t.2 then 1 else 0) + commitCount (runTurn w c s t.1 t.2).state ts

theorem version_history (s : State α) (ts : List (TurnIn α × Oracles α)) (v : Int) (h : s.ver = .num v) :
    (runTurns w c s ts).state.ver = .num (v + commitCount w c s ts) := by
  induction ts generalizing s v with
  | nil => rw [runTurns_nil, h, commitCount, Int.natCast_zero, Int.add_zero]
  | cons t ts ih =>
    have h1 : (runTurn w c s t.1 t.2).state.ver = .num (v + (if commits w c s t.1 t.2 then 1 else 0 : Nat)) := by
      rw [runTurn_state, nextState_ver, applyOf_version, h]
      split
      · rfl
      · rw [Int.natCast_zero, Int.add_zero]
    rw [runTurns_cons, commitCount, ih _ _ h1, Int.natCast_add, Int.add_assoc]

/-- `commitCount` is the number of turn outputs with an apply record -/
theorem commitCount_eq_applies (s : State α) (ts : List (TurnIn α × Oracles α)) :
    commitCount w c s ts = ((runTurns w c s ts).outs.filter (fun o => o.apply.isSome)).length := by
  induction ts generalizing s with
  | nil => rfl
  | cons t ts ih =>
    rw [runTurns_cons, commitCount, ih, List.filter_cons, runTurn_apply]
    by_cases hc : commits w c s t.1 t.2 = true
    · rw [if_pos hc, if_pos hc, if_pos Option.isSome_some, List.length_cons, Nat.add_comm]
    · rw [if_neg hc, if_neg hc, Option.isSome_none, if_neg Bool.false_ne_true, Nat.zero_add]

/-- scheduler off: nothing yields, every boundary is passed -/
theorem yieldOf_sched_off (h : c.sched = none) :
    yieldOf w c s t o = none := by
  unfold yieldOf; rw [h]

theorem reach_sched_off (h : c.sched = none) (k : Nat) (hk : k < 5) :
    reach w c s t o k = true := by
  unfold reach yr
  rw [yieldOf_sched_off w c s t o h]
  exact decide_eq_true hk

/-! ## GEL: the store after any turn is `Clem.Gel.run` of a list of C18's operations -/

/-- with promotions off the turn issues no `promote` operation -/
theorem gelOps_no_promote (h : c.doPromo = false) :
    ∀ p, Clem.Gel.Op.promote p ∉ gelOps w c s t o := by
  intro p hp
  have h0 : gelPromos c o = [] := by unfold gelPromos; rw [h]; rfl
  unfold gelOps gelObsOps gelTickOps gelMaintOps at hp
  rw [h0] at hp
  simp only [List.mem_append, List.mem_ite_nil_right, List.mem_singleton, List.mem_map, Clem.Gel.pySlice,
    List.take_nil, List.not_mem_nil, reduceCtorEq, false_and, and_false, exists_false, or_false, ite_self] at hp

/-- every output of a history carries a GEL store reached from the initial one by C18 operations
(without `promote` when promotions are off) -/
theorem mem_outs_gel {s : State α} {ts : List (TurnIn α × Oracles α)} {o : TurnOut α}
    (h : o ∈ (runTurns w c s ts).outs) :
    ∃ ops, o.state.gel = Clem.Gel.run c.gel c.pw s.gel ops ∧
      (c.doPromo = false → ∀ p, Clem.Gel.Op.promote p ∉ ops) := by
  let P : State α → Prop := fun s' => ∃ ops, s'.gel = Clem.Gel.run c.gel c.pw s.gel ops ∧
    (c.doPromo = false → ∀ p, Clem.Gel.Op.promote p ∉ ops)
  have step : ∀ s' t o, P s' → P (nextState w c s' t o) := by
    rintro s' t o ⟨ops, he, hn⟩
    refine ⟨ops ++ gelOps w c s' t o, by rw [nextState_gel, he]; exact List.foldl_append.symm, fun hp p hm => ?_⟩
    rcases List.mem_append.1 hm with h1 | h1
    · exact hn hp p h1
    · exact gelOps_no_promote w c s' t o hp p h1
  obtain ⟨s', t, hs', _, rfl⟩ := (runTurns_inv w c step ⟨[], rfl, fun _ _ hm => nomatch hm⟩ ts).2 o h
  exact step s' t.1 t.2 hs'

theorem goodState_of_empty (h : s.orch = []) : GoodState w c s := by
  intro e he; rw [h] at he; cases he

/-- from a good state, the T2 result of every output of a history is an answer of the T2 model or the empty one -/
theorem outs_t2_good {s : State α} {ts : List (TurnIn α × Oracles α)} (hs : GoodState w c s) :
    ∀ r ∈ (runTurns w c s ts).outs, T2Good w c r.t2 := by
  intro r hr
  obtain ⟨s', t, hg, _, rfl⟩ := (runTurns_inv w c (nextState_good w c) hs ts).2 r hr
  rw [runTurn_t2]
  exact t2Of_good w c s' t.1 t.2 hg

end

end Clem.Compose
