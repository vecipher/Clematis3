import Clem.Proofs.ParT2Dedup

/-! The dedupe loop in closed form, and: the cross-shard merge walk equals the sequential tier walk (C09). -/
namespace Clem.ParT2
open Clem.Py

variable {α : Type}

theorem seqFill_eq_fill (k : Int) (L out : List (Hit α)) (seen : List (List Nat)) :
    seqFill k L out seen = ((fill k L out seen).1, (fill k L out seen).2.1) := by
  induction L generalizing out seen with
  | nil => rfl
  | cons h rest ih =>
    rw [seqFill, fill]
    by_cases hs : seen.contains h.id = true
    · rw [if_pos hs, if_pos hs]
      exact ih out seen
    · rw [if_neg hs, if_neg hs]
      by_cases hk : (((out ++ [h]).length : Nat) : Int) ≥ k
      · rw [if_pos hk, if_pos hk]
      · rw [if_neg hk, if_neg hk]
        exact ih _ _

/-- with `m + 1` hits still wanted, the dedupe loop appends the first `m + 1` hits of the bucket that
are new, one per id; it returns early iff there are that many. -/
theorem fill_eq (k : Nat) (L out : List (Hit α)) (seen : List (List Nat)) (m : Nat)
    (hk : out.length + (m + 1) = k) :
    fill (k : Int) L out seen
      = (out ++ (dedupAux seen L).take (m + 1),
         (((dedupAux seen L).take (m + 1)).map Hit.id).reverse ++ seen,
         decide (m + 1 ≤ (dedupAux seen L).length)) := by
  induction L generalizing out seen m with
  | nil => exact congrArg (·, seen, false) (List.append_nil out).symm
  | cons h rest ih =>
    rw [fill, dedupAux_cons]
    by_cases hs : seen.contains h.id = true
    · rw [if_pos hs, if_pos hs]
      exact ih out seen m hk
    · rw [if_neg hs, if_neg hs]
      dsimp only
      rw [List.take_succ_cons, List.length_cons, List.length_append, List.length_singleton, List.map_cons,
        List.reverse_cons, List.append_assoc, List.singleton_append,
        decide_eq_decide.mpr Nat.add_le_add_iff_right]
      cases m with
      | zero =>
        rw [if_pos (by rw [← hk]), List.take_zero, List.map_nil, List.reverse_nil, List.nil_append,
          decide_eq_true (Nat.zero_le _)]
      | succ m =>
        have hlt : out.length + 1 < k := hk ▸ Nat.add_lt_add_left (Nat.succ_lt_succ (Nat.succ_pos m)) _
        rw [if_neg (Int.not_le.mpr (Int.ofNat_lt.mpr hlt)), ih (out ++ [h]) (h.id :: seen) m
            (by rw [List.length_append, List.length_singleton, Nat.add_assoc, Nat.add_comm 1]; exact hk),
          List.append_assoc, List.singleton_append]

/-- the early return happens exactly when `k` hits have been retrieved, and the loop adds as many ids
to `seen` as hits to `out`. -/
theorem fill_inv (k : Nat) (L out : List (Hit α)) (seen : List (List Nat)) (hlt : out.length < k) :
    ((fill (k : Int) L out seen).2.2 = true ↔ ((fill (k : Int) L out seen).1.length : Int) ≥ (k : Int))
    ∧ (fill (k : Int) L out seen).2.1.length + out.length
        = (fill (k : Int) L out seen).1.length + seen.length := by
  obtain ⟨m, hm⟩ := Nat.exists_eq_add_of_lt hlt
  rw [fill_eq k L out seen m hm.symm]
  simp only [List.length_append, List.length_take, List.length_reverse, List.length_map, ge_iff_le,
    Int.ofNat_le, decide_eq_true_eq]
  subst hm
  rw [Nat.add_assoc out.length m 1]
  exact ⟨(Nat.add_le_add_iff_left.trans (Nat.le_min.trans (and_iff_right (Nat.le_refl _)))).symm,
    by rw [Nat.add_right_comm, Nat.add_comm _ out.length]⟩

/-- while fewer than `k` ids have been seen, the dedupe loop finds in `rankU le k B` everything it
would take from the whole sorted bucket `B`. -/
theorem fill_rankU (le : Hit α → Hit α → Bool) (k : Nat) (B out : List (Hit α)) (seen : List (List Nat))
    (hlt : out.length < k) (hseen : seen.length ≤ out.length) :
    fill (k : Int) (rankU le k B) out seen = fill (k : Int) (isort le B) out seen := by
  obtain ⟨m, hm⟩ := Nat.exists_eq_add_of_lt hlt
  have hN := (dedupAux_ids [] (isort le B)).1
  obtain ⟨hA, hF⟩ := take_filter_unseen _ seen k (m + 1) hN ((Nat.add_le_add_right hseen _).trans_eq hm.symm)
  have hR : dedupAux seen (rankU le k B) = ((dedupAux [] (isort le B)).take k).filter (unseen seen) :=
    dedupAux_of_nodup seen _ (hN.sublist ((List.take_sublist k _).map Hit.id))
  rw [fill_eq k _ out seen m hm.symm, fill_eq k _ out seen m hm.symm, hR,
    ← dedupAux_dedupAux [] seen (isort le B) (List.nil_subset _), dedupAux_of_nodup seen _ hN, hA]
  simp only [hF]

/-- an empty bucket is skipped; so it is by the dedupe loop. -/
theorem mergeTiers_cons (le : Hit α → Hit α → Bool) (k : Int) (shards : List (ShardHits α))
    (t : List Nat) (ts : List (List Nat)) (out : List (Hit α)) (seen used : List (List Nat)) :
    mergeTiers le k shards (t :: ts) out seen used
      = if (fill k (isort le (bucketOf t shards)) out seen).2.2
        then ((fill k (isort le (bucketOf t shards)) out seen).1, used ++ [t])
        else mergeTiers le k shards ts (fill k (isort le (bucketOf t shards)) out seen).1
          (fill k (isort le (bucketOf t shards)) out seen).2.1 (used ++ [t]) := by
  rw [mergeTiers]
  cases bucketOf t shards <;> rfl

theorem bucketOf_shardDictU {σ : Type} (le : Hit α → Hit α → Bool) (k : Nat) (allTiers : List (List Nat))
    (candSh : σ → List Nat → List (Hit α)) (shards : List σ) (t : List Nat) (ht : t ∈ allTiers) :
    bucketOf t (shards.map (shardDictU le k allTiers candSh))
      = ((shards.map (fun sh => candSh sh t)).map (rankU le k)).flatten := by
  simp only [bucketOf, shardDictU, List.flatMap_def, List.map_map, Function.comp_def, List.lookup_graph _ ht,
    Option.getD_some]

/-- merge walk over per-shard top-k-unique dicts = sequential walk over the whole index's
top-k-unique hits; **no uniqueness assumption on episode ids**. -/
theorem walkU_par_eq_seq {σ : Type} (le : Hit α → Hit α → Bool)
    (total : ∀ a b, le a b = true ∨ le b a = true)
    (trans : ∀ a b c, le a b = true → le b c = true → le a c = true)
    (antisymm : ∀ a b, le a b = true → le b a = true → a = b)
    (k : Nat) (allTiers : List (List Nat)) (shards : List σ)
    (candSh : σ → List Nat → List (Hit α)) :
    ∀ (tiers : List (List Nat)), (∀ t ∈ tiers, t ∈ allTiers) →
    ∀ (out : List (Hit α)) (seen used : List (List Nat)), out.length < k → seen.length ≤ out.length →
      mergeTiers le (k : Int) (shards.map (shardDictU le k allTiers candSh)) tiers out seen used
        = seqWalk (k : Int) (fun t => rankU le k (shards.map (fun sh => candSh sh t)).flatten)
            tiers out seen used := by
  intro tiers
  induction tiers with
  | nil => intro _ out seen used _ _; rfl
  | cons t ts ih =>
    intro hsub out seen used hlt hseen
    obtain ⟨ht, hts⟩ := List.forall_mem_cons.mp hsub
    rw [mergeTiers_cons, seqWalk, bucketOf_shardDictU le k allTiers candSh shards t ht, seqFill_eq_fill,
      ← rankU_flatten_map le total trans antisymm, fill_rankU le k _ out seen hlt hseen]
    obtain ⟨hflag, hlen⟩ := fill_inv k
      (isort le ((shards.map (fun sh => candSh sh t)).map (rankU le k)).flatten) out seen hlt
    generalize fill (k : Int) _ out seen = r at *
    dsimp only
    by_cases hk : ((r.1.length : Nat) : Int) ≥ (k : Int)
    · rw [if_pos (hflag.mpr hk), if_pos hk]
    · rw [if_neg (mt hflag.mp hk), if_neg hk]
      exact ih hts r.1 r.2.1 _ (Int.ofNat_lt.mp (Int.not_le.mp hk))
        (Nat.le_of_add_le_add_right (hlen.trans_le (Nat.add_le_add_left hseen _)))

/-- a single tier whose hits have unique ids and fit into `k` is retrieved as it is. -/
theorem seqWalk_single (k : Nat) (hk : 1 ≤ k) (hitsOf : List Nat → List (Hit α)) (t : List Nat)
    (hnd : ((hitsOf t).map Hit.id).Nodup) (hlen : (hitsOf t).length ≤ k) :
    seqWalk (k : Int) hitsOf [t] [] [] [] = (hitsOf t, [t]) := by
  obtain ⟨m, rfl⟩ := Nat.exists_eq_add_one.mpr hk
  rw [seqWalk, seqFill_eq_fill, fill_eq (m + 1) _ [] [] m (Nat.zero_add _), dedupAux_of_disjoint [] _ hnd (by simp),
    List.take_of_length_le hlen]
  -- whether or not `k` is reached, there is no tier left to walk
  exact ite_self _

end Clem.ParT2
