import Mathlib.Data.List.Sort
import Clem.Py.Sort

/-! `lexLe` is the order of `List Nat`.  `isort` is Mathlib's `insertionSort`: it permutes, sorts, is
canonical on a multiset when the key order is antisymmetric, depends on the order only through
comparisons of an element with later ones, commutes with order-preserving maps, and fixes sorted lists. -/
namespace Clem.Py

theorem lexLe_iff : ∀ a b : List Nat, lexLe a b = true ↔ a ≤ b
  | [], _ => by simp [lexLe]
  | _ :: _, [] => by simp [lexLe]
  | x :: xs, y :: ys => by
    rw [lexLe, List.cons_le_cons_iff, ← lexLe_iff xs ys]
    by_cases h1 : x < y
    · simp [h1]
    · by_cases h2 : y < x
      · simp [h1, h2]; omega
      · have : x = y := by omega
        simp [this]

theorem lexLe_total (a b : List Nat) : lexLe a b = true ∨ lexLe b a = true := by
  simpa only [lexLe_iff] using List.le_total a b

theorem lexLe_trans {a b c : List Nat} : lexLe a b = true → lexLe b c = true → lexLe a c = true := by
  simpa only [lexLe_iff] using List.le_trans

theorem lexLe_antisymm {a b : List Nat} : lexLe a b = true → lexLe b a = true → a = b := by
  simpa only [lexLe_iff] using List.le_antisymm

theorem lexLt_iff (a b : List Nat) : lexLt a b = true ↔ lexLe a b = true ∧ a ≠ b := by
  simp [lexLt]

theorem not_lexLt_iff (a b : List Nat) : lexLt b a = false ↔ lexLe a b = true := by
  rw [lexLe_iff, ← Bool.not_eq_true, lexLt_iff, lexLe_iff]
  constructor
  · intro h
    rcases List.le_total a b with h1 | h1
    · exact h1
    · by_cases e : b = a
      · exact e ▸ List.le_refl b
      · exact absurd ⟨h1, e⟩ h
  · rintro h ⟨h1, e⟩
    exact e (List.le_antisymm h1 h)

/-- one layer of a lexicographic order over a linear order, with the next layer `R`: total when the next layer is … -/
theorem lex_total {β : Type} [LinearOrder β] {x y : β} {R R' : Prop} (h : R ∨ R') :
    (x < y ∨ x = y ∧ R) ∨ (y < x ∨ y = x ∧ R') := by
  rcases lt_trichotomy x y with h' | h' | h'
  · exact .inl (.inl h')
  · exact h.imp (fun h => .inr ⟨h', h⟩) fun h => .inr ⟨h'.symm, h⟩
  · exact .inr (.inl h')

/-- … and transitive when the next layer is -/
theorem lex_trans {β : Type} [LinearOrder β] {x y z : β} {R₁ R₂ R₃ : Prop} (h : R₁ → R₂ → R₃) :
    (x < y ∨ x = y ∧ R₁) → (y < z ∨ y = z ∧ R₂) → (x < z ∨ x = z ∧ R₃) := by
  rintro (h1 | ⟨rfl, h1⟩) (h2 | ⟨rfl, h2⟩)
  · exact .inl (lt_trans h1 h2)
  · exact .inl h1
  · exact .inl h2
  · exact .inr ⟨rfl, h h1 h2⟩

variable {α : Type}

theorem orderedInsert_eq (le : α → α → Bool) (a : α) (l : List α) :
    orderedInsert le a l = List.orderedInsert (fun x y => le x y = true) a l := by
  induction l with
  | nil => rfl
  | cons b l ih => simp [orderedInsert, List.orderedInsert_cons, ih]

theorem isort_eq (le : α → α → Bool) (l : List α) :
    isort le l = List.insertionSort (fun x y => le x y = true) l := by
  induction l with
  | nil => rfl
  | cons a l ih =>
    show orderedInsert le a (isort le l) = _
    rw [ih, orderedInsert_eq]; rfl

theorem isort_perm (le : α → α → Bool) (l : List α) : (isort le l).Perm l := by
  rw [isort_eq]; exact List.perm_insertionSort _ l

@[simp] theorem mem_isort (le : α → α → Bool) {l : List α} {x : α} : x ∈ isort le l ↔ x ∈ l :=
  (isort_perm le l).mem_iff

@[simp] theorem length_isort (le : α → α → Bool) (l : List α) : (isort le l).length = l.length :=
  (isort_perm le l).length_eq

/-- Sortedness, for a total and transitive key order. -/
theorem isort_pairwise (le : α → α → Bool)
    (total : ∀ a b, le a b = true ∨ le b a = true)
    (trans : ∀ a b c, le a b = true → le b c = true → le a c = true) (l : List α) :
    (isort le l).Pairwise (fun x y => le x y = true) := by
  rw [isort_eq]
  have : Std.Total (fun x y : α => le x y = true) := ⟨total⟩
  have : IsTrans α (fun x y : α => le x y = true) := ⟨trans⟩
  exact List.pairwise_insertionSort _ l

/-- Canonicity: when the key order is antisymmetric on the elements at hand, the sorted list
depends only on the multiset — permuting the input does not change the output. -/
theorem isort_perm_invariant (le : α → α → Bool)
    (total : ∀ a b, le a b = true ∨ le b a = true)
    (trans : ∀ a b c, le a b = true → le b c = true → le a c = true)
    {l l' : List α} (hp : l.Perm l')
    (antisymm : ∀ a ∈ l, ∀ b ∈ l, le a b = true → le b a = true → a = b) :
    isort le l = isort le l' := by
  have h1 := isort_pairwise le total trans l
  have h2 := isort_pairwise le total trans l'
  have hperm : (isort le l).Perm (isort le l') :=
    (isort_perm le l).trans (hp.trans (isort_perm le l').symm)
  apply List.Perm.eq_of_pairwise _ h1 h2 hperm
  intro a b ha hb hab hba
  exact antisymm a ((mem_isort le).mp ha) b (hp.mem_iff.mpr ((mem_isort le).mp hb)) hab hba

theorem orderedInsert_pos {le : α → α → Bool} {a b : α} (h : le a b = true) (l : List α) :
    orderedInsert le a (b :: l) = a :: b :: l := by rw [orderedInsert, if_pos h]

theorem orderedInsert_neg {le : α → α → Bool} {a b : α} (h : le a b = false) (l : List α) :
    orderedInsert le a (b :: l) = b :: orderedInsert le a l := by
  rw [orderedInsert, if_neg (by simp [h])]

theorem orderedInsert_congr (le le' : α → α → Bool) (a : α) (s : List α)
    (h : ∀ b ∈ s, le a b = le' a b) : orderedInsert le a s = orderedInsert le' a s := by
  induction s with
  | nil => rfl
  | cons b s ih =>
    simp only [orderedInsert, h b (by simp)]
    rw [ih (fun c hc => h c (by simp [hc]))]

theorem orderedInsert_of_le_all (le : α → α → Bool) (a : α) (l : List α)
    (h : ∀ x ∈ l, le a x = true) : orderedInsert le a l = a :: l := by
  cases l with
  | nil => rfl
  | cons b t => exact orderedInsert_pos (h b (by simp)) t

/-- inserting before or after cutting to `k` gives the same first `k` elements -/
theorem take_orderedInsert (le : α → α → Bool) (a : α) :
    ∀ (k : Nat) (s : List α),
      (orderedInsert le a s).take k = (orderedInsert le a (s.take k)).take k
  | _, [] => by simp
  | 0, _ => by simp
  | k + 1, b :: s => by
    cases hle : le a b with
    | true =>
      rw [orderedInsert_pos hle, List.take_succ_cons (as := s), orderedInsert_pos hle, List.take_succ_cons,
        List.take_succ_cons, ← List.take_succ_cons (as := s), List.take_take, Nat.min_eq_left (Nat.le_succ k)]
    | false =>
      rw [List.take_succ_cons, orderedInsert_neg hle, orderedInsert_neg hle, List.take_succ_cons,
        List.take_succ_cons, take_orderedInsert le a k s]

/-- insertion sort compares an element only with elements that follow it in the input. -/
theorem isort_congr_of_pairwise (le le' : α → α → Bool) {l : List α}
    (h : l.Pairwise (fun a b => le a b = le' a b)) : isort le l = isort le' l := by
  induction l with
  | nil => rfl
  | cons a l ih =>
    rw [List.pairwise_cons] at h
    show orderedInsert le a (isort le l) = orderedInsert le' a (isort le' l)
    rw [ih h.2]
    exact orderedInsert_congr le le' a _ fun b hb => h.1 b ((mem_isort le').mp hb)

/-- sorting commutes with a map that carries one order to the other on the elements at hand -/
theorem map_isort {β : Type} (le : α → α → Bool) (le' : β → β → Bool) (f : α → β) (l : List α)
    (h : ∀ a ∈ l, ∀ b ∈ l, le a b = le' (f a) (f b)) : (isort le l).map f = isort le' (l.map f) := by
  rw [isort_eq, isort_eq]
  exact List.map_insertionSort _ _ f l fun a ha b hb => by rw [h a ha b hb]

/-- A list that is already sorted is left unchanged (idempotence of sorting). -/
theorem isort_of_pairwise (le : α → α → Bool) {l : List α}
    (h : l.Pairwise (fun x y => le x y = true)) : isort le l = l := by
  induction l with
  | nil => rfl
  | cons a l ih =>
    rw [List.pairwise_cons] at h
    show orderedInsert le a (isort le l) = _
    rw [ih h.2]
    cases l with
    | nil => rfl
    | cons b t => simp [orderedInsert, h.1 b (by simp)]

end Clem.Py
