import Clem.Model.Atomic
import Clem.Gen.AtomicCallers

/-!
Lemmas behind C08.  The properties of runs used there all survive executing one more step other
than `replace` in front of a run (`Kept`); what that gives for each phase of `atomic_write_bytes`
is derived for all of them at once, the retry loop apart (`replaceLoop_ind`).
-/
namespace Clem.Atomic

@[simp] theorem getF_delF (d : Dir) (n m : Name) :
    getF (delF d n) m = if m = n then none else getF d m := by
  induction d with
  | nil => exact (ite_self _).symm
  | cons h t ih =>
    rw [delF, getF]
    by_cases hk : h.1 = n
    · rw [if_pos hk, ih]
      by_cases hm : m = n
      · rw [if_pos hm, if_pos hm]
      · rw [if_neg hm, if_neg hm, if_neg fun e => hm (e.symm.trans hk)]
    · rw [if_neg hk, getF, ih]
      by_cases hm : h.1 = m
      · rw [if_pos hm, if_neg fun e => hk (hm.trans e), if_pos hm]
      · rw [if_neg hm, if_neg hm]

@[simp] theorem getF_setF (d : Dir) (n m : Name) (c : Bytes) :
    getF (setF d n c) m = if m = n then some c else getF d m := by
  simp only [setF, getF, getF_delF, @eq_comm _ n m]
  split <;> rfl

@[simp] theorem getF_appendF (d : Dir) (n m : Name) (c : Bytes) :
    getF (appendF d n c) m = if m = n then some ((getF d n).getD [] ++ c) else getF d m :=
  getF_setF ..

theorem getF_renameF {d : Dir} {src dst : Name} {c : Bytes} (h : getF d src = some c) (m : Name) :
    getF (renameF d src dst) m = if m = dst then some c else if m = src then none else getF d m := by
  simp [renameF, h]

/-- names present in a directory. -/
def keys (d : Dir) : List Name := d.map Prod.fst

theorem mem_keys_iff (d : Dir) (n : Name) : n ∈ keys d ↔ getF d n ≠ none := by
  induction d with
  | nil => exact ⟨nofun, fun h => (h rfl).elim⟩
  | cons h t ih =>
    rw [keys, List.map_cons, List.mem_cons, getF]
    by_cases hk : h.1 = n
    · rw [if_pos hk]; exact ⟨fun _ => nofun, fun _ => Or.inl hk.symm⟩
    · rw [if_neg hk]
      exact ⟨fun h' => ih.1 (h'.resolve_left (Ne.symm hk)), fun h' => Or.inr (ih.2 h')⟩

theorem tmpName_ne (dest r : Name) : tmpName dest r ≠ dest :=
  fun h => List.cons_ne_nil _ _ (List.append_right_eq_self.1 h)

@[simp] theorem pre_status (fs s o r) : (pre fs s o r).status = r.status := rfl
@[simp] theorem pre_fs (fs s o r) : (pre fs s o r).fs = r.fs := rfl
@[simp] theorem pre_hist (fs s o r) : (pre fs s o r).hist = fs :: r.hist := rfl
@[simp] theorem pre_trace (fs s o r) : (pre fs s o r).trace = (s, o) :: r.trace := rfl
@[simp] theorem fin_status (st fs) : (fin st fs).status = st := rfl
@[simp] theorem fin_fs (st fs) : (fin st fs).fs = fs := rfl
@[simp] theorem fin_hist (st fs) : (fin st fs).hist = [] := rfl
@[simp] theorem fin_trace (st fs) : (fin st fs).trace = [] := rfl


/-- `P` survives executing one more step, other than `replace`, in front of a run, in a directory
satisfying `I`.  The index of `P` is "every `exists`/`unlink` step so far worked": behind a failed
one the rest of the run is judged at index `false`. -/
structure Kept (I : Dir → Prop) (P : Bool → Res → Prop) : Prop where
  prepend : ∀ {cw cw' : Bool} {fs : Dir} {s : Step} {o : Outcome} {ρ : Res}, I fs → s ≠ .replace →
    (cw = true → stepOk (s, o) = true → cw' = true) → P cw' ρ → P cw (pre fs s o ρ)
  crashed : ∀ {cw : Bool} {fs : Dir}, I fs → P cw (fin .crashed fs)

section Kept
variable {I : Dir → Prop} {P : Bool → Res → Prop} (K : Kept I P) {cw : Bool} {fs : Dir}
include K

theorem Kept.keep {s : Step} {o : Outcome} {ρ : Res} (hI : I fs)
    (hs : s ≠ .replace) (h : P cw ρ) : P cw (pre fs s o ρ) :=
  K.prepend hI hs (fun h _ => h) h

theorem step_kept {s : Step} {σ : List Outcome} {kOk : List Outcome → Res}
    {kErr : Nat → List Outcome → Res} (hI : I fs) (hs : s ≠ .replace) (hok : ∀ σ', P cw (kOk σ'))
    (herr : ∀ c σ', P (stepOk (s, .err c) && cw) (kErr c σ')) : P cw (step fs s σ kOk kErr) := by
  unfold step
  split
  · exact K.keep hI hs (K.crashed hI)
  · exact K.prepend hI hs (fun h1 h2 => by rw [h1, h2]; rfl) (herr _ _)
  · exact K.keep hI hs (hok _)

theorem stepBE_kept {s : Step} {σ : List Outcome} {k : List Outcome → Res}
    (hI : I fs) (hs : s ≠ .replace) (hw : ∀ c, stepOk (s, .err c) = true) (hk : ∀ σ', P cw (k σ')) :
    P cw (stepBE fs s σ k) :=
  step_kept K hI hs hk fun c σ' => by rw [hw c]; exact hk σ'

theorem afterReplace_kept (σ : List Outcome) (hI : I fs)
    (hret : P cw (fin .returned fs)) : P cw (afterReplace fs σ) :=
  have sync : ∀ σ, P cw (dirSync fs σ) := fun _ => step_kept K hI nofun
    (fun _ => stepBE_kept K hI nofun (fun _ => rfl) fun _ =>
      stepBE_kept K hI nofun (fun _ => rfl) fun _ => hret)
    fun _ _ => hret
  step_kept K hI nofun
    (fun _ => stepBE_kept K hI nofun (fun _ => rfl) fun _ =>
      stepBE_kept K hI nofun (fun _ => rfl) sync)
    fun _ => sync

theorem cleanup_kept {tmp : Name} (σ : List Outcome) (hI : I fs)
    (hfail : P false (fin .raised fs))
    (habsent : (getF fs tmp).isSome = false → P cw (fin .raised fs))
    (hgone : P cw (fin .raised (delF fs tmp))) : P cw (cleanup tmp fs σ) :=
  step_kept K hI nofun
    (fun _ => iteInduction (fun _ => step_kept K hI nofun (fun _ => hgone) fun _ _ => hfail)
      fun h => habsent (Bool.eq_false_iff.2 h))
    fun _ _ => hfail

theorem postLoop_kept {kRaise : Dir → List Outcome → Res} {tmp : Name}
    {last : Option Nat} (σ : List Outcome) (hI : I fs)
    (hraise : ∀ cw' fs' σ', fs' = fs ∨ fs' = delF fs tmp → P cw' (kRaise fs' σ'))
    (hret : last = none → ∀ cw' fs', fs' = fs ∨ fs' = delF fs tmp → P cw' (fin .returned fs')) :
    P cw (postLoop kRaise tmp last fs σ) :=
  have hr : ∀ {cw' fs' σ'}, fs' = fs ∨ fs' = delF fs tmp →
      P cw' (if last.isSome then kRaise fs' σ' else fin .returned fs') := fun e =>
    iteInduction (fun _ => hraise _ _ _ e) fun h => hret (Option.not_isSome_iff_eq_none.1 h) _ _ e
  step_kept K hI nofun
    (fun _ => iteInduction
      (fun _ => step_kept K hI nofun (fun _ => hr (Or.inr rfl)) fun _ _ => hraise _ _ _ (Or.inl rfl))
      fun _ => hr (Or.inl rfl))
    fun _ _ => iteInduction
      (fun h => by
        cases last with
        | none => exact hret rfl _ _ (Or.inl rfl)
        | some _ => exact absurd (Bool.and_eq_true_iff.1 h).2 Bool.false_ne_true)
      fun _ => hraise _ _ _ (Or.inl rfl)

theorem permPhase_kept {dest : Name} (σ : List Outcome)
    {k : List Outcome → Res} (hI : I fs) (hk : ∀ σ', P cw (k σ')) : P cw (permPhase dest fs σ k) := by
  have hbe : ∀ σ', P cw (stepBE fs .chmod σ' k) := fun _ => stepBE_kept K hI nofun (fun _ => rfl) hk
  unfold permPhase
  split
  · exact K.keep hI nofun (K.crashed hI)
  · exact K.keep hI nofun (hbe _)
  · exact iteInduction (fun _ => K.keep hI nofun (step_kept K hI nofun hk fun _ => hbe))
      fun _ => K.keep hI nofun (hbe _)

end Kept

/-- Induction over the retry loop, whose directory never changes: an attempt crashes, fails
retryably (and the loop goes on), fails otherwise (`ENOENT` for a vanished source included), or
succeeds. -/
theorem replaceLoop_ind {P : Nat → Option Nat → Res → Prop} {kRaise : Dir → List Outcome → Res}
    {tmp dest : Name} {fs : Dir}
    (post : ∀ last σ, P 0 last (postLoop kRaise tmp last fs σ))
    (crash : ∀ n last, P (n + 1) last (pre fs .replace .crash (fin .crashed fs)))
    (retry : ∀ n last c ρ, retryable c = true → P n (some c) ρ →
      P (n + 1) last (pre fs .replace (.err c) ρ))
    (stop : ∀ n last c σ, retryable c = false →
      P (n + 1) last (pre fs .replace (.err c) (postLoop kRaise tmp (some c) fs σ)))
    (ok : ∀ n last σ, (getF fs tmp).isSome = true →
      P (n + 1) last (pre fs .replace .ok (afterReplace (renameF fs tmp dest) σ))) :
    ∀ n last σ, P n last (replaceLoop kRaise tmp dest n last fs σ) := by
  intro n
  induction n with
  | zero => intro last σ; unfold replaceLoop; exact post last σ
  | succ n ih =>
    intro last σ
    unfold replaceLoop
    split
    · exact crash n last
    · next c _ =>
      exact iteInduction (motive := fun ρ => P (n + 1) last (pre fs .replace (.err c) ρ))
        (fun h => retry n last c _ h (ih _ _)) fun h => stop n last c _ (Bool.eq_false_iff.2 h)
    · exact iteInduction (ok n last _) fun _ => stop n last 2 _ rfl

section Inv
variable (fs0 : Dir) (tmp dest : Name) (data : Bytes)

/-- differs from the initial directory at most at the temp name (destination untouched). -/
def A (d : Dir) : Prop := ∀ n, n ≠ tmp → getF d n = getF fs0 n

/-- after the rename: destination = complete new content, temp gone, rest untouched. -/
def B (d : Dir) : Prop :=
  (∀ n, n ≠ tmp → n ≠ dest → getF d n = getF fs0 n) ∧ getF d dest = some data ∧ getF d tmp = none

def Safe (d : Dir) : Prop := A fs0 tmp d ∨ B fs0 tmp dest data d

/-- the state matches the flag "a replace already succeeded". -/
def St (b : Bool) (d : Dir) : Prop := if b then B fs0 tmp dest data d else A fs0 tmp d

/-- The invariant of (sub)runs.  `b`: a `replace` step already succeeded before this sub-run;
`cw`: every `exists`/`unlink` step before this sub-run worked. -/
structure G (b cw : Bool) (r : Res) : Prop where
  hist : ∀ d ∈ r.hist, Safe fs0 tmp dest data d
  safe : Safe fs0 tmp dest data r.fs
  repl : (b = true ∨ (Step.replace, Outcome.ok) ∈ r.trace) → B fs0 tmp dest data r.fs
  norepl : b = false → (Step.replace, Outcome.ok) ∉ r.trace → A fs0 tmp r.fs
  ret : r.status = .returned → B fs0 tmp dest data r.fs
  rai : r.status = .raised → b = false ∧ A fs0 tmp r.fs
  clean : r.status = .raised → cw = true → cleanupWorked r.trace = true → getF r.fs tmp = none

variable {fs0 tmp dest data}

theorem St.safe {b : Bool} {d : Dir} (h : St fs0 tmp dest data b d) : Safe fs0 tmp dest data d := by
  cases b
  · exact Or.inl h
  · exact Or.inr h

theorem A.setF {d : Dir} (h : A fs0 tmp d) (c : Bytes) : A fs0 tmp (setF d tmp c) :=
  fun n hn => by rw [getF_setF, if_neg hn]; exact h n hn

theorem A.delF {d : Dir} (h : A fs0 tmp d) : A fs0 tmp (delF d tmp) :=
  fun n hn => by rw [getF_delF, if_neg hn]; exact h n hn

theorem A.rename {d : Dir} (h : A fs0 tmp d) (ht : getF d tmp = some data) (hne : tmp ≠ dest) :
    B fs0 tmp dest data (renameF d tmp dest) :=
  ⟨fun n h1 h2 => by rw [getF_renameF ht, if_neg h2, if_neg h1]; exact h n h1,
   by rw [getF_renameF ht, if_pos rfl], by rw [getF_renameF ht, if_neg hne, if_pos rfl]⟩

theorem G.weaken {b cw : Bool} {r : Res} (h : G fs0 tmp dest data b cw r) :
    G fs0 tmp dest data b false r :=
  { h with clean := fun _ h2 => by cases h2 }

theorem G_fin {b cw : Bool} {st : Status} {fs : Dir} (hs : St fs0 tmp dest data b fs)
    (hret : st = .returned → b = true)
    (hrai : st = .raised → b = false ∧ (cw = true → getF fs tmp = none)) :
    G fs0 tmp dest data b cw (fin st fs) where
  hist _ h := nomatch h
  safe := hs.safe
  repl hb := by obtain rfl := hb.resolve_right List.not_mem_nil; exact hs
  norepl hb _ := by subst hb; exact hs
  ret h := by obtain rfl := hret h; exact hs
  rai h := ⟨(hrai h).1, by obtain rfl := (hrai h).1; exact hs⟩
  clean h hc _ := (hrai h).2 hc

theorem G_fin_raised {cw : Bool} {fs : Dir} (h : A fs0 tmp fs) (ht : cw = true → getF fs tmp = none) :
    G fs0 tmp dest data false cw (fin .raised fs) :=
  G_fin (b := false) h nofun fun _ => ⟨rfl, ht⟩

theorem G_pre {b cw cw' : Bool} {fs : Dir} {s : Step} {o : Outcome} {r : Res}
    (hs : St fs0 tmp dest data b fs) (hne : (s, o) ≠ (Step.replace, Outcome.ok))
    (hcw : cw = true → stepOk (s, o) = true → cw' = true)
    (h : G fs0 tmp dest data b cw' r) : G fs0 tmp dest data b cw (pre fs s o r) where
  hist := List.forall_mem_cons.2 ⟨hs.safe, h.hist⟩
  safe := h.safe
  repl hb := h.repl (hb.imp_right fun hm => (List.mem_cons.1 hm).resolve_left hne.symm)
  norepl hb hn := h.norepl hb fun hm => hn (List.mem_cons_of_mem _ hm)
  ret := h.ret
  rai := h.rai
  clean hr hc hw := by
    rw [pre_trace, cleanupWorked, List.all_cons, Bool.and_eq_true] at hw
    exact h.clean hr (hcw hc hw.1) hw.2

theorem G_pre_replace {cw : Bool} {fs : Dir} {r : Res}
    (hs : A fs0 tmp fs) (h : G fs0 tmp dest data true cw r) :
    G fs0 tmp dest data false cw (pre fs .replace .ok r) where
  hist := List.forall_mem_cons.2 ⟨Or.inl hs, h.hist⟩
  safe := h.safe
  repl _ := h.repl (Or.inl rfl)
  norepl _ hn := (hn (List.mem_cons_self ..)).elim
  ret := h.ret
  rai hr := nomatch (h.rai hr).1
  clean hr := nomatch (h.rai hr).1

theorem G_kept (b : Bool) : Kept (St fs0 tmp dest data b) (G fs0 tmp dest data b) :=
  ⟨fun hI hs => G_pre hI fun e => hs (congrArg Prod.fst e), fun hI => G_fin hI nofun nofun⟩

/-! `*_thread`: a kept `P` threaded through the phases of the call, given `P` of its raise leaves
(`raised`) and of the retry loop started with the complete data in the temp (`loop`). -/
section Thread
variable {P : Bool → Res → Prop} {n : Nat} {cw : Bool} (K : Kept (A fs0 tmp) P)
  (raised : ∀ {cw : Bool} {fs : Dir}, A fs0 tmp fs → (cw = true → getF fs tmp = none) →
    P cw (fin .raised fs))
  (loop : ∀ {cw : Bool} {fs : Dir} (σ : List Outcome), A fs0 tmp fs → getF fs tmp = some data →
    P cw (replaceLoop (cleanup tmp) tmp dest n none fs σ))
include K raised

theorem cleanup_thread {fs : Dir} (σ : List Outcome) (h : A fs0 tmp fs) :
    P cw (cleanup tmp fs σ) :=
  cleanup_kept K σ h (raised h nofun) (fun hn => raised h fun _ => by simpa using hn)
    (raised h.delF fun _ => by simp)

theorem closeThenCleanup_thread {fs : Dir} (σ : List Outcome) (h : A fs0 tmp fs) :
    P cw (closeThenCleanup tmp fs σ) :=
  stepBE_kept K h nofun (fun _ => rfl) fun σ' => cleanup_thread K raised σ' h

include loop

theorem syncPhase_thread {fs : Dir} (σ : List Outcome) (h : A fs0 tmp fs)
    (ht : getF fs tmp = some data) : P cw (syncPhase n tmp dest fs σ) :=
  step_kept K h nofun
    (fun _ => step_kept K h nofun
      (fun _ => step_kept K h nofun
        (fun σ3 => permPhase_kept K σ3 h fun _ => step_kept K h nofun (fun σ5 => loop σ5 h ht)
          fun _ σ5 => cleanup_thread K raised σ5 h)
        fun _ σ3 => cleanup_thread K raised σ3 h)
      fun _ σ2 => closeThenCleanup_thread K raised σ2 h)
    fun _ σ1 => closeThenCleanup_thread K raised σ1 h

/-- the write loop: the temp holds `cur`, `rem` is still to be written. -/
theorem writeLoop_thread (σ : List Outcome) :
    ∀ (rem cur : Bytes) (fs : Dir), A fs0 tmp fs → getF fs tmp = some cur → cur ++ rem = data →
      P cw (writeLoop (syncPhase n tmp dest) tmp rem fs σ) := by
  have full : ∀ {rem cur : Bytes} {fs : Dir} σ, A fs0 tmp fs → getF fs tmp = some cur →
      cur ++ rem = data → P cw (pre fs .write .ok (syncPhase n tmp dest (appendF fs tmp rem) σ)) :=
    fun σ h ht hd => K.keep h nofun
      (syncPhase_thread K raised loop σ (h.setF _) (by rw [getF_appendF, if_pos rfl, ht, ← hd]; rfl))
  have none : ∀ {rem cur : Bytes} {fs : Dir} σ, A fs0 tmp fs → getF fs tmp = some cur →
      cur ++ rem = data → rem.isEmpty = true → P cw (syncPhase n tmp dest fs σ) :=
    fun σ h ht hd he => syncPhase_thread K raised loop σ h
      (by rw [List.isEmpty_iff.1 he, List.append_nil] at hd; rw [← hd]; exact ht)
  induction σ with
  | nil =>
    intro rem cur fs h ht hd
    unfold writeLoop
    exact iteInduction (none _ h ht hd) fun _ => full _ h ht hd
  | cons o σ' ih =>
    intro rem cur fs h ht hd
    unfold writeLoop
    refine iteInduction (none _ h ht hd) fun _ => ?_
    cases o with
    | crash => exact K.keep h nofun (K.crashed h)
    | err c => exact K.keep h nofun (closeThenCleanup_thread K raised _ h)
    | ok => exact full _ h ht hd
    | short k =>
      refine iteInduction (fun _ => K.keep h nofun (closeThenCleanup_thread K raised _ h)) fun _ =>
        K.keep h nofun (ih _ (cur ++ rem.take (min k rem.length)) _ (h.setF _) ?_ ?_)
      · rw [getF_appendF, if_pos rfl, ht]; rfl
      · rw [List.append_assoc, List.take_append_drop]; exact hd

/-- **The repaired `atomic_write_bytes`, for every script**: steps other than `replace`, executed
in directories that differ from the initial one at most at the temp name, ending in a crash, a
raise (with the temp absent unless an `exists`/`unlink` failed), or the retry loop with the
complete data in the temp. -/
theorem awb_ind {r : Name} (e : tmp = tmpName dest r)
    (hfresh : cw = true → getF fs0 tmp = none) (σ : List Outcome) :
    P cw (awb true n dest r data fs0 σ) := by
  subst e
  have hA : A fs0 (tmpName dest r) fs0 := fun _ _ => rfl
  exact step_kept K hA nofun
    (fun _ => step_kept K hA nofun
      (fun _ => step_kept K (hA.setF []) nofun
        (fun σ3 => writeLoop_thread K raised loop σ3 data [] _ (hA.setF [])
          (by rw [getF_setF, if_pos rfl]) rfl)
        fun _ σ3 => cleanup_thread K raised σ3 (hA.setF []))
      fun _ _ => raised hA hfresh)
    fun _ _ => raised hA hfresh

end Thread

theorem replaceLoop_G {cw : Bool} (hne : tmp ≠ dest) {fs : Dir} (h : A fs0 tmp fs)
    (ht : getF fs tmp = some data) (n : Nat) (last : Option Nat) (σ : List Outcome)
    (hl : n = 0 → last.isSome = true) :
    G fs0 tmp dest data false cw (replaceLoop (cleanup tmp) tmp dest n last fs σ) := by
  have post : ∀ {last : Option Nat} σ, last.isSome = true →
      G fs0 tmp dest data false cw (postLoop (cleanup tmp) tmp last fs σ) := fun σ hl =>
    postLoop_kept (G_kept false) σ h
      (fun _ _ σ' e => cleanup_thread (G_kept false) G_fin_raised σ'
        (by rcases e with rfl | rfl; exact h; exact h.delF))
      fun e => by simp [e] at hl
  exact replaceLoop_ind
    (P := fun n last ρ => (n = 0 → last.isSome = true) → G fs0 tmp dest data false cw ρ)
    (fun _ σ hl => post σ (hl rfl))
    (fun _ _ _ => G_pre h nofun (fun h _ => h) (G_fin (b := false) h nofun nofun))
    (fun _ _ _ _ _ ih _ => G_pre h nofun (fun h _ => h) (ih fun _ => rfl))
    (fun _ _ _ σ _ _ => G_pre h nofun (fun h _ => h) (post σ rfl))
    (fun _ _ σ _ _ => G_pre_replace h
      (afterReplace_kept (G_kept true) σ (h.rename ht hne)
        (G_fin (b := true) (h.rename ht hne) (fun _ => rfl) nofun)))
    n last σ hl

end Inv

/-- **Main invariant**: the repaired `atomic_write_bytes` satisfies `G` for every script
(`cw = true`, i.e. the temp-hygiene clause, needs the temp name to be fresh). -/
theorem awb_G (cw : Bool) (retries : Nat) (hr : 0 < retries) (dest r : Name) (data : Bytes) (fs0 : Dir)
    (σ : List Outcome) (hfresh : cw = true → getF fs0 (tmpName dest r) = none) :
    G fs0 (tmpName dest r) dest data false cw (awb true retries dest r data fs0 σ) :=
  awb_ind (G_kept false) G_fin_raised
    (fun σ h ht => replaceLoop_G (tmpName_ne dest r) h ht retries none σ (by omega)) rfl hfresh σ

theorem Safe.dest {fs0 d : Dir} {tmp dest : Name} {data : Bytes} (h : Safe fs0 tmp dest data d)
    (hne : tmp ≠ dest) : getF d dest = getF fs0 dest ∨ getF d dest = some data :=
  h.imp (fun a => a dest hne.symm) fun b => b.2.1

/-- what a reader can see: the directory at every step boundary and at the end. -/
theorem G.safe_of_mem {fs0 : Dir} {tmp dest : Name} {data : Bytes} {b cw : Bool} {r : Res}
    (g : G fs0 tmp dest data b cw r) {d : Dir} (hd : d ∈ r.hist ++ [r.fs]) :
    Safe fs0 tmp dest data d := by
  rcases List.mem_append.1 hd with hd | hd
  · exact g.hist d hd
  · rw [List.mem_singleton.1 hd]; exact g.safe

/-- number of `os.replace` attempts in a trace. -/
def attempts (tr : List (Step × Outcome)) : Nat := (tr.filter (fun e => e.1 = Step.replace)).length

@[simp] theorem attempts_cons_replace (o : Outcome) (tr : List (Step × Outcome)) :
    attempts ((Step.replace, o) :: tr) = attempts tr + 1 := by
  simp [attempts]

theorem attempts_cons_ne {s : Step} (o : Outcome) (tr : List (Step × Outcome))
    (hs : s ≠ Step.replace) : attempts ((s, o) :: tr) = attempts tr := by
  simp [attempts, hs]

theorem attempts_zero_kept {I : Dir → Prop} : Kept I fun _ r => attempts r.trace = 0 :=
  ⟨fun {_ _ _ _ o ρ} _ hs _ h => (attempts_cons_ne o ρ.trace hs).trans h, fun _ => rfl⟩

theorem cleanup_norep (tmp : Name) (fs : Dir) (σ : List Outcome) :
    attempts (cleanup tmp fs σ).trace = 0 :=
  cleanup_kept (I := fun _ => True) attempts_zero_kept (cw := true) σ trivial rfl (fun _ => rfl) rfl

theorem postLoop_cleanup_norep (tmp : Name) (last : Option Nat) (fs : Dir) (σ : List Outcome) :
    attempts (postLoop (cleanup tmp) tmp last fs σ).trace = 0 :=
  postLoop_kept (I := fun _ => True) attempts_zero_kept (cw := true) σ trivial
    (fun _ _ _ _ => cleanup_norep _ _ _) fun _ _ _ _ => rfl

def Keeps (fs : Dir) (r : Res) : Prop := r.fs = fs ∧ r.status ≠ .raised ∧ attempts r.trace = 0

theorem afterReplace_Keeps (fs : Dir) (σ : List Outcome) : Keeps fs (afterReplace fs σ) :=
  afterReplace_kept (I := (· = fs)) (P := fun _ => Keeps fs) (cw := true)
    ⟨fun _ hs _ h => ⟨h.1, h.2.1, (attempts_cons_ne _ _ hs).trans h.2.2⟩, fun e => ⟨e, nofun, rfl⟩⟩
    σ rfl ⟨rfl, nofun, rfl⟩

section
variable (kRaise : Dir → List Outcome → Res) (tmp dest : Name) (n : Nat) (last : Option Nat)
  (fs : Dir) (c : Nat) (rest : List Outcome)

theorem replaceLoop_retry (h : retryable c = true) :
    replaceLoop kRaise tmp dest (n + 1) last fs (Outcome.err c :: rest)
      = pre fs .replace (.err c) (replaceLoop kRaise tmp dest n (some c) fs rest) := by
  simp [replaceLoop, hd, h]

theorem replaceLoop_nonretryable (h : retryable c = false) :
    replaceLoop kRaise tmp dest (n + 1) last fs (Outcome.err c :: rest)
      = pre fs .replace (.err c) (postLoop kRaise tmp (some c) fs rest) := by
  simp [replaceLoop, hd, h]

theorem replaceLoop_ok {c0 : Bytes} (h : getF fs tmp = some c0) :
    replaceLoop kRaise tmp dest (n + 1) last fs (Outcome.ok :: rest)
      = pre fs .replace .ok (afterReplace (renameF fs tmp dest) rest) := by
  simp [replaceLoop, hd, h]

end

/-- The model's retryable errnos are the generated set — for every errno. -/
theorem retryable_eq_mem_retryErrnos (c : Nat) :
    retryable c = decide (c ∈ Gen.AtomicCallers.retryErrnos) := by
  by_cases h1 : c = 1; · subst h1; rfl
  by_cases h13 : c = 13; · subst h13; rfl
  by_cases h16 : c = 16; · subst h16; rfl
  simp [retryable, Gen.AtomicCallers.retryErrnos, h1, h13, h16]

theorem retryB_cons_of_ne (n : Nat) {e : Step × Outcome} (tr : List (Step × Outcome))
    (h : ∀ c, e ≠ (.replace, .err c)) : retryB n (e :: tr) = retryB n tr :=
  retryB.eq_4 n e tr h

/-- a failed attempt passes the monitor iff the rest does, provided another attempt follows where
the discipline asks for one. -/
theorem retryB_cons_err {n c : Nat} {tr : List (Step × Outcome)}
    (h : (retryable c && decide (1 < n)) = true → ∃ o tl, tr = (Step.replace, o) :: tl) :
    retryB n ((.replace, .err c) :: tr) = retryB (n - 1) tr := by
  by_cases hc : (retryable c && decide (1 < n)) = true
  · obtain ⟨o, tl, rfl⟩ := h hc
    exact (retryB.eq_2 n c o tl).trans (ite_self _)
  · rw [retryB.eq_def]; exact if_neg hc

theorem retryB_norep (n : Nat) (tr : List (Step × Outcome)) (h : attempts tr = 0) :
    retryB n tr = true := by
  induction tr with
  | nil => rfl
  | cons e t ih =>
    obtain ⟨s, o⟩ := e
    have hs : s ≠ .replace := fun e => by subst e; exact absurd h (Nat.succ_ne_zero _)
    rw [retryB_cons_of_ne n t fun c he => hs (congrArg Prod.fst he)]
    exact ih ((attempts_cons_ne o t hs).symm.trans h)

/-- the trace obeys the retry discipline `retryB n` and holds at most `n` replace attempts. -/
def RQ (n : Nat) (r : Res) : Prop := retryB n r.trace = true ∧ attempts r.trace ≤ n

theorem RQ_of_norep (n : Nat) {r : Res} (h : attempts r.trace = 0) : RQ n r :=
  ⟨retryB_norep n r.trace h, h ▸ Nat.zero_le n⟩

theorem RQ_kept {I : Dir → Prop} (n : Nat) : Kept I fun _ => RQ n :=
  ⟨fun {_ _ _ _ o ρ} _ hs _ h => by
      unfold RQ
      rw [pre_trace, retryB_cons_of_ne n _ fun c e => hs (congrArg Prod.fst e),
        attempts_cons_ne o _ hs]
      exact h,
    fun _ => RQ_of_norep n rfl⟩

theorem RQ_last {n : Nat} {fs : Dir} {o : Outcome} {ρ : Res}
    (ho : ∀ c, o = .err c → retryable c = false) (h : attempts ρ.trace = 0) :
    RQ (n + 1) (pre fs .replace o ρ) := by
  refine ⟨?_, by rw [pre_trace, attempts_cons_replace, h]; exact Nat.succ_le_succ (Nat.zero_le n)⟩
  rw [pre_trace]
  cases o with
  | err c => rw [retryB_cons_err (by rw [ho c rfl]; nofun)]; exact retryB_norep _ _ h
  | _ => rw [retryB_cons_of_ne _ _ fun _ e => by cases e]; exact retryB_norep _ _ h

/-- a failure with attempts left is followed by another attempt. -/
theorem RQ_retry {n : Nat} {fs : Dir} {c : Nat} {ρ : Res} (h : RQ n ρ)
    (hd : 0 < n → ∃ o tr, ρ.trace = (Step.replace, o) :: tr) :
    RQ (n + 1) (pre fs .replace (.err c) ρ) := by
  refine ⟨?_, by rw [pre_trace, attempts_cons_replace]; exact Nat.succ_le_succ h.2⟩
  rw [pre_trace, retryB_cons_err fun hn =>
    hd (Nat.lt_of_succ_lt_succ (of_decide_eq_true (Bool.and_eq_true_iff.1 hn).2))]
  exact h.1

theorem replaceLoop_RQ (tmp dest : Name) (n : Nat) (last : Option Nat) (fs : Dir) (σ : List Outcome) :
    RQ n (replaceLoop (cleanup tmp) tmp dest n last fs σ) :=
  (replaceLoop_ind
    (P := fun n _ ρ => RQ n ρ ∧ (0 < n → ∃ o tr, ρ.trace = (Step.replace, o) :: tr))
    (fun _ _ => ⟨RQ_of_norep 0 (postLoop_cleanup_norep _ _ _ _), fun h => absurd h (Nat.lt_irrefl 0)⟩)
    (fun _ _ => ⟨RQ_last nofun rfl, fun _ => ⟨_, _, rfl⟩⟩)
    (fun _ _ _ _ _ ih => ⟨RQ_retry ih.1 ih.2, fun _ => ⟨_, _, rfl⟩⟩)
    (fun _ _ c _ hc => ⟨RQ_last (fun _ e => by cases e; exact hc) (postLoop_cleanup_norep _ _ _ _),
      fun _ => ⟨_, _, rfl⟩⟩)
    (fun _ _ _ _ => ⟨RQ_last nofun (afterReplace_Keeps _ _).2.2, fun _ => ⟨_, _, rfl⟩⟩)
    n last σ).1

theorem awb_RQ (retries : Nat) (dest r : Name) (data : Bytes) (fs : Dir) (σ : List Outcome) :
    RQ retries (awb true retries dest r data fs σ) :=
  awb_ind (RQ_kept retries) (fun _ _ => RQ_of_norep _ rfl)
    (fun σ _ _ => replaceLoop_RQ _ _ _ _ _ σ) rfl (cw := false) nofun σ

def AllIn (S : Dir → Prop) (r : Res) : Prop := (∀ d ∈ r.hist, S d) ∧ S r.fs

theorem AllIn_fin {S : Dir → Prop} {st : Status} {fs : Dir} (h : S fs) : AllIn S (fin st fs) :=
  ⟨nofun, h⟩

theorem AllIn_pre {S : Dir → Prop} {fs : Dir} {s : Step} {o : Outcome} {r : Res} (h : S fs)
    (hr : AllIn S r) : AllIn S (pre fs s o r) :=
  ⟨List.forall_mem_cons.2 ⟨h, hr.1⟩, hr.2⟩

theorem AllIn_kept (S : Dir → Prop) : Kept S fun _ => AllIn S :=
  ⟨fun h _ _ => AllIn_pre h, AllIn_fin⟩

/-- the three directories a stand-alone `atomic_replace(src, dst)` can ever produce. -/
def ReplStates (fs : Dir) (src dst : Name) (d : Dir) : Prop :=
  d = fs ∨ d = delF fs src ∨ d = renameF fs src dst

theorem atomicReplaceAlone_AllIn (retries : Nat) (src dst : Name) (fs : Dir) (σ : List Outcome) :
    AllIn (ReplStates fs src dst) (atomicReplaceAlone retries src dst fs σ) := by
  have K := AllIn_kept (ReplStates fs src dst)
  have h0 : ReplStates fs src dst fs := Or.inl rfl
  have h2 : ReplStates fs src dst (renameF fs src dst) := Or.inr (Or.inr rfl)
  have post : ∀ last σ, AllIn (ReplStates fs src dst)
      (postLoop (fun fs _ => fin .raised fs) src last fs σ) := fun last σ =>
    postLoop_kept K (cw := true) σ h0 (fun _ _ _ h => AllIn_fin (h.imp_right Or.inl))
      fun _ _ _ h => AllIn_fin (h.imp_right Or.inl)
  exact step_kept K (cw := true) h0 nofun
    (replaceLoop_ind (P := fun _ _ ρ => AllIn (ReplStates fs src dst) ρ) post
      (fun _ _ => AllIn_pre h0 (AllIn_fin h0)) (fun _ _ _ _ _ => AllIn_pre h0)
      (fun _ _ _ σ _ => AllIn_pre h0 (post _ σ))
      (fun _ _ σ _ => AllIn_pre h0 (afterReplace_kept K (cw := true) σ h2 (AllIn_fin h2)))
      retries none)
    fun _ _ => AllIn_fin h0

theorem ReplStates_dst {fs : Dir} {src dst : Name} (hne : src ≠ dst) {d : Dir}
    (h : ReplStates fs src dst d) : getF d dst = getF fs dst ∨ getF d dst = getF fs src := by
  rcases h with rfl | rfl | rfl
  · exact Or.inl rfl
  · exact Or.inl (by rw [getF_delF, if_neg hne.symm])
  · cases hs : getF fs src with
    | none => left; simp [renameF, hs]
    | some c => right; rw [getF_renameF hs, if_pos rfl]

/-- the monitor only asks something of a run that neither crashed nor raised with a failed cleanup. -/
theorem noTempB_of {st : Status} {tr : List (Step × Outcome)} {before after : List Name} {dest : Name}
    (h : st ≠ .crashed → ¬ (st = .raised ∧ ¬ cleanupWorked tr = true) →
      ∀ n ∈ after, n ≠ dest → n ∈ before) : noTempB st tr before dest after = true := by
  unfold noTempB
  refine iteInduction (motive := (· = true)) (fun _ => rfl) fun hc => ?_
  refine iteInduction (motive := (· = true)) (fun _ => rfl) fun hrw => ?_
  rw [List.all_eq_true]
  exact fun n hn => decide_eq_true ((Decidable.em (n = dest)).imp_right (h hc hrw n hn))

@[simp] theorem swallow_fs (r : Res) : (swallow r).fs = r.fs := rfl
@[simp] theorem swallow_hist (r : Res) : (swallow r).hist = r.hist := rfl

theorem swallow_status_ne (r : Res) : (swallow r).status ≠ .raised :=
  iteInduction (motive := (· ≠ Status.raised)) (fun _ => nofun) id

theorem ne_tmp_of_meta (dest r2 : Name) : dest ≠ tmpName (dest ++ metaSuffix) r2 := fun h =>
  List.cons_ne_nil _ _ (List.self_eq_append_right.1 (h.trans (List.append_assoc ..)))

theorem meta_ne_tmp (dest r1 : Name) (h : r1 ≠ [109, 101, 116, 97]) :
    dest ++ metaSuffix ≠ tmpName dest r1 :=
  fun e => h (List.cons.inj (List.append_cancel_left e)).2.symm

theorem lastSeg_suffix (p s b : Name) (h : lastSeg s = some b) : lastSeg (p ++ s) = some b := by
  induction p with
  | nil => exact h
  | cons c t ih => rw [List.cons_append, lastSeg, ih]

theorem lastSeg_append_dot (p r : Name) (hr : 46 ∉ r) : lastSeg (p ++ 46 :: r) = some r := by
  refine lastSeg_suffix p _ r ?_
  have hnone : lastSeg r = none := by
    induction r with
    | nil => rfl
    | cons c t ih =>
      rw [lastSeg, ih fun e => hr (List.mem_cons_of_mem _ e)]
      exact if_neg fun (e : c = 46) => hr (e ▸ List.mem_cons_self ..)
  rw [lastSeg, hnone]; rfl

/-- a name `dest.r` (r dot-free) can only end with a pattern whose last dot-segment is `r`. -/
theorem tmp_endsWith_lastSeg (dest r s b : Name) (hr : 46 ∉ r) (hs : lastSeg s = some b)
    (h : endsWithB (tmpName dest r) s = true) : b = r := by
  rw [endsWithB, Bool.and_eq_true, decide_eq_true_eq, decide_eq_true_eq] at h
  have h1 := lastSeg_append_dot dest r hr
  rw [← tmpName, ← List.take_append_drop _ (tmpName dest r), h.2, lastSeg_suffix _ s b hs] at h1
  exact Option.some.inj h1

/-- decimal rendering of a generation number (`f"{path}.{k}"`). -/
def decFuel : Nat → Nat → List Nat
  | 0, _ => []
  | f + 1, k => if k < 10 then [48 + k] else decFuel f (k / 10) ++ [48 + k % 10]

def dec (k : Nat) : List Nat := decFuel (k + 1) k

theorem decFuel_nodot (f k : Nat) : 46 ∉ decFuel f k := by
  have h46 : ∀ j, 46 ≠ 48 + j := fun j => Nat.ne_of_lt (Nat.lt_add_right j (by decide))
  induction f generalizing k with
  | zero => exact List.not_mem_nil
  | succ f ih =>
    rw [decFuel]
    refine iteInduction (motive := (46 ∉ ·)) (fun _ h => h46 k (List.mem_singleton.1 h)) fun _ h => ?_
    exact (List.mem_append.1 h).elim (ih _) fun h => h46 _ (List.mem_singleton.1 h)

theorem decFuel_length (f : Nat) : ∀ n k, k < 10 ^ (n + 1) → (decFuel f k).length ≤ n + 1 := by
  induction f with
  | zero => exact fun _ _ _ => Nat.zero_le _
  | succ f ih =>
    intro n k hk
    rw [decFuel]
    refine iteInduction (motive := fun l => List.length l ≤ n + 1)
      (fun _ => Nat.succ_le_succ (Nat.zero_le _)) fun h10 => ?_
    cases n with
    | zero => exact absurd hk h10
    | succ m =>
      rw [List.length_append]
      exact Nat.succ_le_succ (ih m (k / 10) (Nat.div_lt_of_lt_mul (Nat.mul_comm _ _ ▸ hk)))

end Clem.Atomic
