/-
Round trip of the delta codec.  `applyItems_walkO_equiv`: every list of operations with the same
members as `_walk_diff base cur` — applied in ANY order — turns `base` into a document equal to
`cur`.  Then the glue to the Python entry points: `apply_delta` as such a list of operations
(`opsOf`, `applyDelta_eq`), the three containers of `compute_delta`, and the wire form
(`ofJ_toJ`: `Delta.ofJ (orEmpty d.toJ) = d`).
-/
import Clem.Proofs.Delta
import Clem.Proofs.Fold

namespace Clem.Delta
open Clem.Py Clem.Py.J

theorem segs_of_split {it : Item} {pre X : List Str} (h : splitPath it.path = pre ++ X) :
    it.segs pre.length = X := by
  simp [Item.segs, h]

/-- every path emitted below `path` extends `path` (by the recursion of `walkC` / `walkV`). -/
theorem shape_walk :
    (∀ pre bs ce, ∀ it ∈ walkC pre bs ce, ∃ more, splitPath it.path = pre ++ more) ∧
    (∀ path bv cv, path ≠ [] → ∀ it ∈ walkV path bv cv, ∃ more, splitPath it.path = path ++ more) := by
  apply walkC.mutual_induct
  case case1 =>
    intro path be ce ih _ it hm
    rw [walkV, List.mem_append, mem_levelItems] at hm
    rcases hm with (⟨k, _, _, rfl⟩ | ⟨k, v, _, _, rfl⟩) | hm
    · exact ⟨[k], splitPath_joinPath _ (by simp)⟩
    · exact ⟨[k], splitPath_joinPath _ (by simp)⟩
    · exact ih it hm
  case case2 =>
    intro path bv cv hobj hsame _ it hm
    rw [walkV, if_pos hsame] at hm
    · cases hm
    · exact hobj
  case case3 =>
    intro path bv cv hobj hsame hp it hm
    rw [walkV, if_neg hsame] at hm
    · cases List.mem_singleton.1 hm
      exact ⟨[], (splitPath_joinPath _ hp).trans (List.append_nil _).symm⟩
    · exact hobj
  case case4 => intro pre ce it hm; cases hm
  case case5 =>
    intro pre k bv bs ce ih1 ih2 it hm
    rw [walkC, List.mem_append] at hm
    rcases hm with hm | hm
    · split at hm
      · cases hm
      · next cv _ =>
        obtain ⟨more, h⟩ := ih1 cv (by simp) it hm
        exact ⟨k :: more, by rw [h, List.append_assoc]; rfl⟩
    · exact ih2 it hm

theorem segs_single (pre : List Str) (k : Str) {it : Item} (h : it.path = joinPath (pre ++ [k])) :
    it.segs pre.length = [k] :=
  segs_of_split (by rw [h, splitPath_joinPath _ (by simp)])

theorem segs_walkV {pre : List Str} {k : Str} {bv cv : J} {it : Item}
    (h : it ∈ walkV (pre ++ [k]) bv cv) : ∃ more, it.segs pre.length = k :: more := by
  obtain ⟨more, hmore⟩ := shape_walk.2 (pre ++ [k]) bv cv (by simp) it h
  exact ⟨more, segs_of_split (hmore.trans (List.append_assoc pre [k] more))⟩

/-- the three loops of `_walk_diff` at one level: deletions, additions, and what `walkV` emits below
a key present on both sides. -/
theorem mem_walkO {pre : List Str} {be ce : List (Str × J)} {it : Item} :
    it ∈ walkO pre be ce ↔
      (∃ k, k ∈ keys be ∧ hasKey k ce = false ∧ it = .del (joinPath (pre ++ [k]))) ∨
      (∃ k v, (k, v) ∈ ce ∧ hasKey k be = false ∧ it = .add (joinPath (pre ++ [k])) v) ∨
      (∃ k bv cv, (k, bv) ∈ be ∧ lookup k ce = some cv ∧ it ∈ walkV (pre ++ [k]) bv cv) := by
  rw [walkO, List.mem_append, mem_levelItems, mem_walkC, or_assoc]

theorem segs_ne_nil {pre : List Str} {be ce : List (Str × J)} {it : Item}
    (h : it ∈ walkO pre be ce) : it.segs pre.length ≠ [] := by
  rcases mem_walkO.1 h with ⟨k, _, _, rfl⟩ | ⟨k, v, _, _, rfl⟩ | ⟨k, bv, cv, _, _, hi⟩
  · exact ne_of_eq_of_ne (segs_single pre k rfl) (List.cons_ne_nil _ _)
  · exact ne_of_eq_of_ne (segs_single pre k rfl) (List.cons_ne_nil _ _)
  · obtain ⟨more, hs⟩ := segs_walkV hi
    exact ne_of_eq_of_ne hs (List.cons_ne_nil _ _)

/-- The items of one level whose path continues with segment `k` are exactly the diff of the two
`k`-entries: nothing, one addition, one deletion, or what `walkV` emits below `k`. -/
theorem mem_walkO_headIs {pre : List Str} {be ce : List (Str × J)} (hb : nodupKeys be = true)
    (hc : nodupKeys ce = true) (k : Str) (it : Item) :
    (it ∈ walkO pre be ce ∧ headIs pre.length k it = true) ↔
      match lookup k be, lookup k ce with
      | none, none => False
      | none, some cv => it = .add (joinPath (pre ++ [k])) cv
      | some _, none => it = .del (joinPath (pre ++ [k]))
      | some bv, some cv => it ∈ walkV (pre ++ [k]) bv cv := by
  constructor
  · rintro ⟨hw, hh⟩
    rcases mem_walkO.1 hw with ⟨k', hk, hkc, rfl⟩ | ⟨k', v, hm, hkb, rfl⟩ | ⟨k', bv, cv, hm, hl, hi⟩
    · cases (headIs_iff (segs_single pre k' rfl)).1 hh
      obtain ⟨bv, hbv⟩ := Option.isSome_iff_exists.1 ((hasKey_iff_mem_keys k be).2 hk)
      rw [hbv, (hasKey_false_iff k ce).1 hkc]
    · cases (headIs_iff (segs_single pre k' rfl)).1 hh
      rw [(hasKey_false_iff k be).1 hkb, lookup_of_mem_nodup hc hm]
    · obtain ⟨more, hs⟩ := segs_walkV hi
      cases (headIs_iff hs).1 hh
      rw [lookup_of_mem_nodup hb hm, hl]
      exact hi
  · cases hbv : lookup k be with
    | none =>
      cases hcv : lookup k ce with
      | none => exact False.elim
      | some cv =>
        rintro rfl
        exact ⟨mem_walkO.2 (.inr (.inl ⟨k, cv, mem_of_lookup hcv, (hasKey_false_iff k be).2 hbv, rfl⟩)),
          (headIs_iff (segs_single pre k rfl)).2 rfl⟩
    | some bv =>
      cases hcv : lookup k ce with
      | none =>
        rintro rfl
        exact ⟨mem_walkO.2 (.inl ⟨k, (hasKey_iff_mem_keys k be).1 (hasKey_of_lookup hbv),
          (hasKey_false_iff k ce).2 hcv, rfl⟩), (headIs_iff (segs_single pre k rfl)).2 rfl⟩
      | some cv =>
        intro hi
        obtain ⟨more, hs⟩ := segs_walkV hi
        exact ⟨mem_walkO.2 (.inr (.inr ⟨k, bv, cv, mem_of_lookup hbv, hcv, hi⟩)), (headIs_iff hs).2 rfl⟩

/-- the value an item puts at its path (`none`: it deletes) -/
def Item.value : Item → Option J
  | .add _ v => some v
  | .mod _ v => some v
  | .del _ => none

/-- Operations that are all the one item `x`, whose path ends with the segment after `pre`:
whatever was under that key, the value of `x` is there afterwards. -/
theorem foldl_single {S : List Item} {x : Item} (hS : ∀ it, it ∈ S ↔ it = x) (pre : List Str)
    (k : Str) (hx : x.path = joinPath (pre ++ [k])) (c : Option J) :
    S.foldl (fun c it => stepItem pre.length it c) c = x.value := by
  have hs := segs_succ _ _ (segs_single pre k hx)
  have step : ∀ c, ∀ it ∈ S, stepItem pre.length it c = x.value := fun c it hi => by
    cases (hS it).1 hi
    cases x <;> rw [stepItem, hs] <;> rfl
  obtain ⟨y, t, rfl⟩ := List.exists_cons_of_ne_nil (List.ne_nil_of_mem ((hS x).2 rfl))
  rw [List.foldl_cons, step c y List.mem_cons_self]
  exact Fold.foldl_fixed _ _ t fun it hi => step _ it (List.mem_cons_of_mem _ hi)

/-- **Any order.**  Operations with the members of `_walk_diff` below `pre`, in any order and with
any multiplicities, turn `be` into a document equal to `ce`.  Induction on the size of `be`: under
each key the operations are the diff of the two entries (`mem_walkO_headIs`), a smaller instance
when both are objects. -/
theorem applyItems_walkO_equiv (be ce : List (Str × J)) (pre : List Str) (ops : List Item)
    (hwb : wf (.obj be) = true) (hwc : wf (.obj ce) = true)
    (hops : ∀ it, it ∈ ops ↔ it ∈ walkO pre be ce) :
    Equiv (.obj (applyItems pre.length ops be)) (.obj ce) := by
  induction hn : sizeO be using Nat.strongRecOn generalizing be ce pre ops with
  | ind n ih =>
    simp only [wf, Bool.and_eq_true] at hwb hwc
    apply Equiv.obj_of_opt
    intro k
    rw [lookup_applyItems pre.length k ops (fun it hi => segs_ne_nil ((hops it).1 hi)) be]
    -- `S`: the operations below key `k`, known through `mem_walkO_headIs` only
    have memS := fun it => (List.mem_filter.trans (and_congr_left' (hops it))).trans
      (mem_walkO_headIs hwb.1 hwc.1 k it)
    generalize ops.filter (headIs pre.length k) = S at memS
    cases hb : lookup k be with
    | none =>
      cases hc : lookup k ce with
      | none =>
        simp only [hb, hc] at memS
        rw [show S = [] from List.eq_nil_iff_forall_not_mem.2 fun it hi => (memS it).1 hi]
        exact .none
      | some cv =>
        simp only [hb, hc] at memS
        rw [foldl_single memS pre k rfl]
        exact .some (J.Equiv.refl cv)
    | some bv =>
      cases hc : lookup k ce with
      | none =>
        simp only [hb, hc] at memS
        rw [foldl_single memS pre k rfl]
        exact .none
      | some cv =>
        simp only [hb, hc] at memS
        have hmemb := mem_of_lookup hb
        by_cases hobj : isObj bv = true ∧ isObj cv = true
        · obtain ⟨b', rfl⟩ := eq_obj_of_isObj hobj.1
          obtain ⟨c', rfl⟩ := eq_obj_of_isObj hobj.2
          simp only [walkV_obj] at memS
          have hlen : (pre ++ [k]).length = pre.length + 1 := by simp
          rw [foldl_nested pre.length S (fun it hi => hlen ▸ segs_ne_nil ((memS it).1 hi)) b']
          have hszb := size_of_mem hmemb
          simp only [size] at hszb
          have := ih _ (by omega) b' c' (pre ++ [k]) S (wf_of_mem hwb.2 hmemb)
            (wf_of_mem hwc.2 (mem_of_lookup hc)) memS rfl
          rw [hlen] at this
          exact .some this
        · simp only [walkV_leaf _ _ _ hobj] at memS
          by_cases hsame : same bv cv = true
          · rw [show S = [] from List.eq_nil_iff_forall_not_mem.2 fun it hi => by
              have := (memS it).1 hi; rw [if_pos hsame] at this; cases this]
            exact .some (eqvG_sound false bv cv hsame)
          · simp only [hsame, Bool.false_eq_true, if_false, List.mem_singleton] at memS
            rw [foldl_single memS pre k rfl]
            exact .some (J.Equiv.refl cv)

/-! ### glue: `apply_delta` as a list of operations; wire form -/

theorem mem_addsOf (l : List Item) (p : Str) (v : J) : (p, v) ∈ addsOf l ↔ Item.add p v ∈ l := by
  induction l with
  | nil => simp [addsOf]
  | cons it l ih => cases it <;> simp [addsOf, ih]

theorem mem_modsOf (l : List Item) (p : Str) (v : J) : (p, v) ∈ modsOf l ↔ Item.mod p v ∈ l := by
  induction l with
  | nil => simp [modsOf]
  | cons it l ih => cases it <;> simp [modsOf, ih]

theorem mem_delsOf (l : List Item) (p : Str) : p ∈ delsOf l ↔ Item.del p ∈ l := by
  induction l with
  | nil => simp [delsOf]
  | cons it l ih => cases it <;> simp [delsOf, ih]

/-- the operations `apply_delta` performs, in the order it performs them. -/
def opsOf (d : Delta) : List Item :=
  (isort keyLe d.adds).map (fun e => Item.add e.1 e.2) ++
  (isort keyLe d.mods).map (fun e => Item.mod e.1 e.2) ++
  (isort lexLe d.dels).map Item.del

theorem applyDelta_eq (base : J) (d : Delta) :
    applyDelta base d = applyItems 0 (opsOf d) (entries base) := by
  simp only [applyDelta, opsOf, applyItems, List.foldl_append, List.foldl_map]
  rfl

theorem wf_entries {a : J} (h : wf a = true) : wf (.obj (entries a)) = true := by
  cases a <;> first | exact h | rfl

theorem strsOf_map_str (l : List Str) : strsOf (l.map J.str) = l := by
  induction l with
  | nil => rfl
  | cons s l ih => simp [strsOf, ih]

theorem ofJ_toJ (d : Delta) : Delta.ofJ (orEmpty d.toJ) = d := by
  cases d with
  | mk a m dl =>
    simp [Delta.ofJ, Delta.toJ, orEmpty, truthy, entries, lookup, sADDS, sMODS, sDELS, asEntries,
      strsOf_map_str]

theorem wf_orEmpty {a : J} (h : wf a = true) : wf (orEmpty a) = true := by
  unfold orEmpty; split
  · exact h
  · rfl

end Clem.Delta
