import Clem.Model.LogRotate

/-! `rotate_one` is a sequence of guarded primitives (`if exists(x): remove / replace`), each of
which takes one `shifted` state to the next; a primitive whose guard fails would have changed
nothing.  Hence every crash prefix of the step list is the initial state or a `shifted` state. -/
namespace Clem.LogRotate

/-- the legal states of an (interrupted) rotation of `fs` with `n` backups. -/
def Legal (fs : FS) (n : Nat) (st : FS) : Prop := st = fs ∨ ∃ m, m ≤ n ∧ st = shifted fs n m

/-- every prefix of `l` run from `g` ends in a legal state. -/
def AllPre (fs : FS) (n : Nat) : FS → List Step → Prop
  | g, [] => Legal fs n g
  | g, s :: l => Legal fs n g ∧ AllPre fs n (apply g s) l

theorem allPre_head {fs n g l} (h : AllPre fs n g l) : Legal fs n g := by
  cases l with
  | nil => exact h
  | cons s l => exact h.1

/-- running `l` from `g` ends in `g'`, through legal states only. -/
def Run (fs : FS) (n : Nat) (g : FS) (l : List Step) (g' : FS) : Prop :=
  AllPre fs n g l ∧ exec g l = g'

theorem run_append {fs n} {l₁ l₂ : List Step} {g g₁ g₂ : FS} (h₁ : Run fs n g l₁ g₁)
    (h₂ : Run fs n g₁ l₂ g₂) : Run fs n g (l₁ ++ l₂) g₂ := by
  induction l₁ generalizing g with
  | nil => obtain ⟨_, rfl⟩ := h₁; exact h₂
  | cons s l₁ ih =>
    have ih := ih (g := apply g s) ⟨h₁.1.2, h₁.2⟩
    exact ⟨⟨h₁.1.1, ih.1⟩, ih.2⟩

theorem allPre_take {fs n} (l : List Step) (g : FS) (j : Nat) (h : AllPre fs n g l) :
    Legal fs n (exec g (l.take j)) := by
  induction l generalizing g j with
  | nil => rw [List.take_nil]; exact h
  | cons s l ih =>
    cases j with
    | zero => exact h.1
    | succ j => exact ih (apply g s) j h.2

theorem allPre_exec {fs n} (l : List Step) (g : FS) (h : AllPre fs n g l) :
    Legal fs n (exec g l) := by
  have := allPre_take l g l.length h
  simpa using this

theorem shifted_of_gt {fs : FS} {n i : Nat} (m : Nat) (h : n < i) : shifted fs n m i = fs i :=
  if_pos h

theorem shifted_of_mid {fs : FS} {n m i : Nat} (h : m < i) (hn : i ≤ n) :
    shifted fs n m i = fs (i - 1) :=
  (if_neg (Nat.not_lt.mpr hn)).trans (if_pos h)

theorem shifted_self {fs : FS} {n m : Nat} (h : m ≤ n) : shifted fs n m m = none :=
  (if_neg (Nat.not_lt.mpr h)).trans ((if_neg (Nat.lt_irrefl m)).trans (if_pos rfl))

theorem shifted_of_lt {fs : FS} {n m i : Nat} (h : i < m) (hn : m ≤ n) : shifted fs n m i = fs i :=
  (if_neg (Nat.not_lt.mpr (Nat.le_trans (Nat.le_of_lt h) hn))).trans
    ((if_neg (Nat.lt_asymm h)).trans (if_neg (Nat.ne_of_lt h)))

theorem legal_shifted {fs : FS} {n m : Nat} (h : m ≤ n) : Legal fs n (shifted fs n m) :=
  Or.inr ⟨m, h, rfl⟩

theorem apply_rm_absent {g : FS} {k : Nat} (h : ¬existsAt g k) : apply g (.rm k) = g := by
  have h := Option.not_isSome_iff_eq_none.mp h
  funext i
  by_cases hi : i = k
  · exact (if_pos hi).trans (hi ▸ h.symm)
  · exact if_neg hi

theorem apply_mv_absent {g : FS} {s d : Nat} (hs : ¬existsAt g s) (hd : g d = none) :
    apply g (.mv s d) = g := by
  have hs := Option.not_isSome_iff_eq_none.mp hs
  funext i
  by_cases h₁ : i = d
  · exact (if_pos h₁).trans (hs.trans (h₁ ▸ hd.symm))
  · by_cases h₂ : i = s
    · exact (if_neg h₁).trans ((if_pos h₂).trans (h₂ ▸ hs.symm))
    · exact (if_neg h₁).trans (if_neg h₂)

theorem rm_oldest (fs : FS) (n : Nat) : apply fs (.rm n) = shifted fs n n := by
  funext i
  rcases Nat.lt_trichotomy i n with h | rfl | h
  · exact (if_neg (Nat.ne_of_lt h)).trans (shifted_of_lt h (Nat.le_refl n)).symm
  · exact (if_pos rfl).trans (shifted_self (Nat.le_refl i)).symm
  · exact (if_neg (Nat.ne_of_gt h)).trans (shifted_of_gt n h).symm

theorem shifted_step {fs : FS} {n m : Nat} (h : m < n) :
    apply (shifted fs n (m + 1)) (.mv m (m + 1)) = shifted fs n m := by
  funext i
  by_cases h₁ : i = m + 1
  · subst h₁
    exact (if_pos rfl).trans ((shifted_of_lt (Nat.lt_succ_self m) h).trans
      (shifted_of_mid (Nat.lt_succ_self m) h).symm)
  · by_cases h₂ : i = m
    · subst h₂
      exact (if_neg h₁).trans ((if_pos rfl).trans (shifted_self (Nat.le_of_lt h)).symm)
    · refine (if_neg h₁).trans ((if_neg h₂).trans ?_)
      rcases Nat.lt_or_gt_of_ne h₂ with hlt | hgt
      · exact (shifted_of_lt (Nat.lt_succ_of_lt hlt) h).trans
          (shifted_of_lt hlt (Nat.le_of_lt h)).symm
      · have hgt' : m + 1 < i := Nat.lt_of_le_of_ne hgt (Ne.symm h₁)
        by_cases hn : i ≤ n
        · exact (shifted_of_mid hgt' hn).trans (shifted_of_mid hgt hn).symm
        · exact (shifted_of_gt _ (Nat.not_le.mp hn)).trans (shifted_of_gt _ (Nat.not_le.mp hn)).symm

theorem guarded_run {fs n} {g g' : FS} {s : Step} {c : Bool} (hs : apply g s = g')
    (hc : ¬c → apply g s = g) (hg : Legal fs n g) (hg' : Legal fs n g') :
    Run fs n g (if c then [s] else []) g' := by
  cases c
  · exact ⟨hg, (hc Bool.false_ne_true).symm.trans hs⟩
  · exact ⟨⟨hg, hs ▸ hg'⟩, hs⟩

theorem step_run {fs : FS} {n m : Nat} (h : m < n) :
    Run fs n (shifted fs n (m + 1))
      (if existsAt (shifted fs n (m + 1)) m then [.mv m (m + 1)] else []) (shifted fs n m) :=
  guarded_run (shifted_step h) (apply_mv_absent · (shifted_self h)) (legal_shifted h)
    (legal_shifted (Nat.le_of_lt h))

/-- the loop body of the cascade is a guarded move; its target slot is vacant, so the move may be
thought of as performed whether or not the source exists. -/
theorem cascade_succ {g : FS} {k : Nat} (h : g (k + 2) = none) :
    cascade g (k + 1) = (if existsAt g (k + 1) then [.mv (k + 1) (k + 2)] else []) ++
      cascade (apply g (.mv (k + 1) (k + 2))) k := by
  by_cases hc : existsAt g (k + 1) = true
  · rw [if_pos hc]
    exact if_pos hc
  · rw [if_neg hc, apply_mv_absent hc h]
    exact if_neg hc

theorem cascade_run {fs : FS} {n k : Nat} (hn : k + 1 ≤ n) :
    Run fs n (shifted fs n (k + 1)) (cascade (shifted fs n (k + 1)) k) (shifted fs n 1) := by
  induction k with
  | zero => exact ⟨legal_shifted hn, rfl⟩
  | succ k ih =>
    rw [cascade_succ (shifted_self hn), shifted_step hn]
    exact run_append (step_run hn) (ih (Nat.le_of_succ_le hn))

theorem preSteps_run (fs : FS) (n : Nat) (hn : 1 ≤ n) :
    Run fs n fs (preSteps fs n) (shifted fs n 1) := by
  obtain ⟨k, rfl⟩ : ∃ k, n = k + 1 := ⟨n - 1, (Nat.sub_add_cancel hn).symm⟩
  have r : Run fs (k + 1) fs _ _ := guarded_run (rm_oldest fs (k + 1)) apply_rm_absent (Or.inl rfl)
    (legal_shifted (Nat.le_refl _))
  refine run_append r ?_
  rw [r.2]
  exact cascade_run (Nat.le_refl _)

theorem steps_run (fs : FS) {b : Int} (h : 1 ≤ b) :
    Run fs b.toNat fs (steps fs b) (shifted fs b.toNat 0) := by
  have hn : 1 ≤ b.toNat := Int.lt_toNat.mpr h
  have p := preSteps_run fs b.toNat hn
  rw [steps, if_neg (Int.not_lt.mpr h), stepsPos]
  refine run_append p ?_
  rw [p.2]
  exact step_run hn

/-- every crash prefix of `rotate_one` is legal, whatever the backup count. -/
theorem steps_allPre (fs : FS) (b : Int) : AllPre fs b.toNat fs (steps fs b) := by
  by_cases h : b < 1
  · rw [steps, if_pos h]
    exact Or.inl rfl
  · exact (steps_run fs (Int.not_lt.mp h)).1

/-- position of the old generation `i` in `shifted fs n m`. -/
def posAfter (n m i : Nat) : Nat := if m ≤ i ∧ i < n then i + 1 else i

theorem posAfter_eq (n m i : Nat) : posAfter n m i = i ∨ posAfter n m i = i + 1 := by
  unfold posAfter
  split
  · exact Or.inr rfl
  · exact Or.inl rfl

theorem shifted_pos {fs : FS} {n m i : Nat} (hm : m ≤ n) (hi : i ≠ n) :
    shifted fs n m (posAfter n m i) = fs i := by
  unfold posAfter
  split
  · next h => exact shifted_of_mid (Nat.lt_succ_of_le h.1) h.2
  · next h =>
    rcases Nat.lt_or_ge i m with h₁ | h₁
    · exact shifted_of_lt h₁ hm
    · exact shifted_of_gt m
        (Nat.lt_of_le_of_ne (Nat.not_lt.mp fun h₂ => h ⟨h₁, h₂⟩) (Ne.symm hi))

theorem posAfter_strictMono {n i i' : Nat} (m : Nat) (h : i < i') (hi' : i' ≠ n) :
    posAfter n m i < posAfter n m i' := by
  unfold posAfter
  split
  · next hi =>
    split
    · exact Nat.succ_lt_succ h
    · next hn =>
      have : n ≤ i' := Nat.not_lt.mp fun h₂ => hn ⟨Nat.le_trans hi.1 (Nat.le_of_lt h), h₂⟩
      exact Nat.lt_of_le_of_lt hi.2 (Nat.lt_of_le_of_ne this (Ne.symm hi'))
  · split
    · exact Nat.lt_succ_of_lt h
    · exact h

theorem shifted_origin {fs : FS} {n m i c : Nat} (hm : m ≤ n)
    (h : shifted fs n m i = some c) :
    ∃ i', i' ≠ n ∧ fs i' = some c ∧ (i = i' ∨ i = i' + 1) := by
  rcases Nat.lt_or_ge n i with h₁ | h₁
  · exact ⟨i, Nat.ne_of_gt h₁, (shifted_of_gt m h₁).symm.trans h, Or.inl rfl⟩
  · rcases Nat.lt_or_ge m i with h₂ | h₂
    · cases i with
      | zero => exact absurd h₂ (Nat.not_lt_zero m)
      | succ k => exact ⟨k, Nat.ne_of_lt h₁, (shifted_of_mid h₂ h₁).symm.trans h, Or.inr rfl⟩
    · rcases Nat.lt_or_eq_of_le h₂ with h₃ | h₃
      · exact ⟨i, Nat.ne_of_lt (Nat.lt_of_lt_of_le h₃ hm), (shifted_of_lt h₃ hm).symm.trans h,
          Or.inl rfl⟩
      · rw [h₃, shifted_self hm] at h
        cases h

theorem legalStateB_iff {before after : FS} {n hi : Nat} :
    legalStateB before after n hi = true ↔
      (∀ i < hi + 2, after i = before i) ∨
        ∃ m ≤ n, ∀ i < hi + 2, after i = shifted before n m i := by
  simp only [legalStateB, Bool.or_eq_true, List.all_eq_true, List.any_eq_true, List.mem_range,
    beq_iff_eq, ← Nat.lt_succ_iff (n := n)]

theorem nothingLostB_iff {before after : FS} {n hi : Nat} :
    nothingLostB before after n hi = true ↔
      ∀ i < hi + 1, ((i = n ∨ before i = none) ∨ after i = before i) ∨ after (i + 1) = before i := by
  simp only [nothingLostB, Bool.or_eq_true, List.all_eq_true, List.mem_range, beq_iff_eq,
    Option.isNone_iff_eq_none]

end Clem.LogRotate
