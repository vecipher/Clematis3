import Clem.Model.LogFrame

/-! JSONL framing: `parseLines` computes the unique decomposition of a file into LF-terminated
lines and an unterminated rest; `popAt` is `List.set` on the chosen queue; the run invariant. -/
namespace Clem.LogFrame

theorem parseAux_nil (acc : Bytes) : parseAux acc [] = ([], acc.reverse) := rfl

theorem parseAux_cons (acc : Bytes) (b : Nat) (bs : Bytes) :
    parseAux acc (b :: bs) =
      if b = LF then (acc.reverse :: (parseAux [] bs).1, (parseAux [] bs).2)
      else parseAux (b :: acc) bs := rfl

/-- Bytes other than LF only extend the line being accumulated. -/
theorem parseAux_append_of_not_mem {l : Bytes} (h : LF ∉ l) (acc rest : Bytes) :
    parseAux acc (l ++ rest) = parseAux (l.reverse ++ acc) rest := by
  induction l generalizing acc with
  | nil => rfl
  | cons b l ih =>
    rw [List.cons_append, parseAux_cons, if_neg (List.ne_of_not_mem_cons h).symm,
      ih (List.not_mem_of_not_mem_cons h), List.reverse_cons, List.append_assoc]
    rfl

theorem parseLines_of_not_mem {r : Bytes} (h : LF ∉ r) : parseLines r = ([], r) := by
  have := parseAux_append_of_not_mem h [] []
  rwa [List.append_nil, List.append_nil, parseAux_nil, List.reverse_reverse] at this

theorem parseLines_frames_append {ls : List Bytes} (h : ∀ l ∈ ls, LF ∉ l) (rest : Bytes) :
    parseLines ((ls.map frame).flatten ++ rest) =
      (ls ++ (parseLines rest).1, (parseLines rest).2) := by
  induction ls with
  | nil => rfl
  | cons l ls ih =>
    have ih := ih fun x hx => h x (List.mem_cons_of_mem _ hx)
    rw [parseLines] at ih ⊢
    rw [List.map_cons, List.flatten_cons, frame, List.append_assoc, List.append_assoc,
      parseAux_append_of_not_mem (h l List.mem_cons_self), List.singleton_append, parseAux_cons,
      if_pos rfl, ih, List.append_nil, List.reverse_reverse]
    rfl

/-- Whatever `parseAux` returns is a decomposition of what it was given. -/
theorem parseAux_decomp {file acc : Bytes} {ls : List Bytes} {r : Bytes} (h : LF ∉ acc)
    (hp : parseAux acc file = (ls, r)) :
    acc.reverse ++ file = (ls.map frame).flatten ++ r ∧ (∀ l ∈ ls, LF ∉ l) ∧ LF ∉ r := by
  induction file generalizing acc ls with
  | nil =>
    cases hp
    exact ⟨List.append_nil _, fun _ hl => (nomatch hl), fun hm => h (List.mem_reverse.mp hm)⟩
  | cons b bs ih =>
    rw [parseAux_cons] at hp
    by_cases hb : b = LF
    · rw [if_pos hb] at hp
      cases hp
      obtain ⟨e, hl, hr⟩ := ih List.not_mem_nil rfl
      refine ⟨?_, List.forall_mem_cons.mpr ⟨fun hm => h (List.mem_reverse.mp hm), hl⟩, hr⟩
      rw [List.map_cons, List.flatten_cons, frame, List.append_assoc, List.append_assoc, ← e, hb]
      rfl
    · rw [if_neg hb] at hp
      have ih := ih (List.not_mem_cons_of_ne_of_not_mem (Ne.symm hb) h) hp
      rwa [List.reverse_cons, List.append_assoc] at ih

/-- `parseLines` computes THE decomposition of a file into LF-free lines, each followed by one LF,
and an LF-free unterminated rest. -/
theorem parseLines_eq_iff {file : Bytes} {ls : List Bytes} {r : Bytes} :
    parseLines file = (ls, r) ↔
      file = (ls.map frame).flatten ++ r ∧ (∀ l ∈ ls, LF ∉ l) ∧ LF ∉ r := by
  constructor
  · exact parseAux_decomp List.not_mem_nil
  · rintro ⟨rfl, hl, hr⟩
    rw [parseLines_frames_append hl, parseLines_of_not_mem hr, List.append_nil]

/-- Parsing `a ++ b` is parsing `a` and resuming with its unterminated rest in front of `b`. -/
theorem parseLines_append {a : Bytes} {ls : List Bytes} {r : Bytes} (h : parseLines a = (ls, r))
    (b : Bytes) :
    parseLines (a ++ b) = (ls ++ (parseLines (r ++ b)).1, (parseLines (r ++ b)).2) := by
  obtain ⟨rfl, hl, _⟩ := parseLines_eq_iff.mp h
  rw [List.append_assoc]
  exact parseLines_frames_append hl (r ++ b)

theorem chunksCompleteB_iff {cs : List Bytes} :
    chunksCompleteB cs = true ↔ ∀ c ∈ cs, (parseLines c).2 = [] := by
  simp only [chunksCompleteB, List.all_eq_true, beq_iff_eq]

theorem parseLines_flatten {cs : List Bytes} (h : ∀ c ∈ cs, (parseLines c).2 = []) :
    parseLines cs.flatten = ((cs.map (fun c => (parseLines c).1)).flatten, []) := by
  induction cs with
  | nil => rfl
  | cons c cs ih =>
    rw [List.flatten_cons, parseLines_append (r := []) (Prod.ext rfl (h c List.mem_cons_self)),
      List.nil_append, ih fun x hx => h x (List.mem_cons_of_mem _ hx)]
    rfl

theorem merges_cons_cons {α : Type} (x : α) (xs : List α) (y : α) (ys : List α) :
    merges (x :: xs) (y :: ys) =
      (merges xs (y :: ys)).map (x :: ·) ++ (merges (x :: xs) ys).map (y :: ·) := rfl

theorem mem_merges {α : Type} {xs ys m : List α} (h : m ∈ merges xs ys) :
    ∀ c ∈ m, c ∈ xs ∨ c ∈ ys := by
  induction xs generalizing ys m with
  | nil => cases List.mem_singleton.mp h; exact fun _ => Or.inr
  | cons x xs ihx =>
    induction ys generalizing m with
    | nil => cases List.mem_singleton.mp h; exact fun _ => Or.inl
    | cons y ys ihy =>
      rw [merges_cons_cons, List.mem_append, List.mem_map, List.mem_map] at h
      obtain ⟨m', hm', rfl⟩ | ⟨m', hm', rfl⟩ := h
      · exact List.forall_mem_cons.mpr ⟨Or.inl List.mem_cons_self,
          fun c hc => (ihx hm' c hc).imp_left (List.mem_cons_of_mem x)⟩
      · exact List.forall_mem_cons.mpr ⟨Or.inr List.mem_cons_self,
          fun c hc => (ihy hm' c hc).imp_right (List.mem_cons_of_mem y)⟩

/-- `popAt qs w` takes the head of the `w`-th queue, if there is one. -/
theorem popAt_eq (qs : List (List Bytes)) (w : Nat) :
    popAt qs w = match qs[w]? with
      | some (l :: q) => some (l, qs.set w q)
      | _ => none := by
  induction qs generalizing w with
  | nil => rfl
  | cons q qs ih =>
    cases w with
    | zero => cases q <;> rfl
    | succ w =>
      show (match popAt qs w with
        | some (l, qs') => some (l, q :: qs')
        | none => none) = _
      rw [ih w, List.getElem?_cons_succ]
      rcases qs[w]? with _ | _ | _ <;> rfl

theorem sum_length_set_tail {α : Type} {qs : List (List α)} {w : Nat} {l : α} {q : List α}
    (h : qs[w]? = some (l :: q)) :
    (qs.map List.length).sum = ((qs.set w q).map List.length).sum + 1 := by
  induction qs generalizing w with
  | nil => exact nomatch h
  | cons c qs ih =>
    cases w with
    | zero =>
      cases Option.some.inj h
      exact Nat.add_right_comm ..
    | succ w => exact congrArg (c.length + ·) (ih h)

theorem linesOf_concat (w' : Nat) (t : List (Nat × Bytes)) (w : Nat) (l : Bytes) :
    linesOf w' (t ++ [(w, l)]) = linesOf w' t ++ if w = w' then [l] else [] := by
  rw [linesOf, List.filter_append, List.map_append, List.filter_cons]
  by_cases h : w = w'
  · rw [if_pos h, if_pos (beq_iff_eq.mpr h)]; rfl
  · rw [if_neg h, if_neg (mt beq_iff_eq.mp h)]; rfl

/-- the invariants carried by a run, relative to the initial queues `qs0`. -/
structure Inv (qs0 : List (List Bytes)) (s : Run) : Prop where
  file : s.file = (s.trace.map (fun e => frame e.2)).flatten
  writer : ∀ w, linesOf w s.trace ++ s.pending.getD w [] = qs0.getD w []
  count : s.trace.length + (s.pending.map List.length).sum = (qs0.map List.length).sum
  sub : ∀ q' ∈ s.pending, ∀ x ∈ q', ∃ q ∈ qs0, x ∈ q
  tr : ∀ e ∈ s.trace, ∃ q ∈ qs0, e.2 ∈ q

theorem inv_init (qs : List (List Bytes)) : Inv qs ⟨[], [], qs⟩ :=
  ⟨rfl, fun _ => rfl, Nat.zero_add _, fun q' hq' _ hx => ⟨q', hq', hx⟩, fun _ he => nomatch he⟩

theorem inv_step {qs0 : List (List Bytes)} {s : Run} (h : Inv qs0 s) (w : Nat) :
    Inv qs0 (step s w) := by
  rw [step, popAt_eq]
  rcases hq : s.pending[w]? with _ | _ | ⟨l, q⟩
  · exact h
  · exact h
  have hm : l :: q ∈ s.pending := List.mem_of_getElem? hq
  refine ⟨?_, fun w' => ?_, ?_, fun q' hq' x hx => ?_, fun e he => ?_⟩
  · show s.file ++ frame l = _
    rw [h.file, List.map_append, List.flatten_append, List.map_singleton, List.flatten_singleton]
  · show linesOf w' (s.trace ++ [(w, l)]) ++ (s.pending.set w q).getD w' [] = _
    rw [← h.writer w', linesOf_concat, List.append_assoc, List.getD_eq_getElem?_getD,
      List.getD_eq_getElem?_getD]
    by_cases hw : w = w'
    · subst hw
      rw [if_pos rfl, hq, List.getElem?_set_self (List.getElem?_eq_some_iff.mp hq).1]
      rfl
    · rw [if_neg hw, List.getElem?_set_ne hw]
      rfl
  · show (s.trace ++ [(w, l)]).length + ((s.pending.set w q).map List.length).sum = _
    rw [← h.count, sum_length_set_tail hq, List.length_append, List.length_singleton, Nat.add_assoc,
      Nat.add_comm 1]
  · rcases List.mem_or_eq_of_mem_set hq' with hq' | rfl
    · exact h.sub q' hq' x hx
    · exact h.sub _ hm x (List.mem_cons_of_mem _ hx)
  · rcases List.mem_append.mp he with he | he
    · exact h.tr e he
    · cases List.mem_singleton.mp he
      exact h.sub _ hm l List.mem_cons_self

theorem inv_exec (qs : List (List Bytes)) (sched : List Nat) : Inv qs (exec qs sched) :=
  List.foldlRecOn sched step (inv_init qs) fun _ hs w _ => inv_step hs w

theorem replaceCRLF_id {t : Bytes} (h : CR ∉ t) : replaceCRLF t = t := by
  induction t with
  | nil => rfl
  | cons a t ih =>
    cases t with
    | nil => rfl
    | cons b t =>
      show (if a = CR ∧ b = LF then LF :: replaceCRLF t else a :: replaceCRLF (b :: t)) = _
      rw [if_neg fun e => List.ne_of_not_mem_cons h e.1.symm, ih (List.not_mem_of_not_mem_cons h)]

end Clem.LogFrame
