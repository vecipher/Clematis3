/-
Lemmas about the whitespace tokeniser of the dialogue model: `" ".join(toks)` of whitespace-free non-empty
tokens tokenises back to `toks`, so truncation really yields `max_tokens` tokens (`truncate_spec`).
-/
import Clem.Model.T3

namespace Clem.T3

/-- a token as `str.split()` produces it: non-empty and free of whitespace -/
def IsTok (t : Str) : Prop := t ≠ [] ∧ ∀ c ∈ t, isSpace c = false

theorem tokAux_append_nospace (t : Str) (h : ∀ c ∈ t, isSpace c = false) (cur rest : Str) :
    tokAux cur (t ++ rest) = tokAux (cur ++ t) rest := by
  induction t generalizing cur with
  | nil => rw [List.nil_append, List.append_nil]
  | cons c cs ih =>
    rw [List.cons_append, tokAux, if_neg (Bool.eq_false_iff.1 (h c List.mem_cons_self)),
      ih (fun x hx => h x (List.mem_cons_of_mem c hx)), List.append_assoc]
    rfl

theorem tokAux_isTok (s : Str) : ∀ cur : Str, (∀ c ∈ cur, isSpace c = false) → ∀ t ∈ tokAux cur s, IsTok t := by
  induction s with
  | nil =>
    intro cur hcur t ht
    cases cur with
    | nil => cases ht
    | cons a l => cases List.mem_singleton.1 ht; exact ⟨List.cons_ne_nil a l, hcur⟩
  | cons c cs ih =>
    intro cur hcur t ht
    rw [tokAux] at ht
    by_cases hc : isSpace c = true
    · -- a space closes the token being read, if there is one
      rw [if_pos hc] at ht
      have rest := ih [] (fun _ h => nomatch h) t
      cases cur with
      | nil => exact rest ht
      | cons a l => exact (List.mem_cons.1 ht).elim (fun e => e ▸ ⟨List.cons_ne_nil a l, hcur⟩) rest
    · rw [if_neg hc] at ht
      refine ih (cur ++ [c]) (fun x hx => ?_) t ht
      rcases List.mem_append.1 hx with hx | hx
      · exact hcur x hx
      · cases List.mem_singleton.1 hx; exact Bool.eq_false_iff.2 hc

theorem tokenize_isTok (s : Str) : ∀ t ∈ tokenize s, IsTok t := tokAux_isTok s [] (fun _ h => nomatch h)

theorem tokenize_joinSp : ∀ ts : List Str, (∀ t ∈ ts, IsTok t) → tokenize (joinSp ts) = ts
  | [], _ => rfl
  | [t], h => by
    have ht := h t List.mem_cons_self
    have := tokAux_append_nospace t ht.2 [] []
    rw [List.append_nil, List.nil_append] at this
    unfold joinSp tokenize
    rw [this, tokAux, if_neg (by rw [List.isEmpty_iff]; exact ht.1)]
  | t :: u :: ts, h => by
    have ht := h t List.mem_cons_self
    have ih := tokenize_joinSp (u :: ts) (fun x hx => h x (List.mem_cons_of_mem t hx))
    unfold tokenize at ih ⊢
    rw [joinSp, tokAux_append_nospace t ht.2, List.nil_append, tokAux, if_pos (by decide),
      if_neg (by rw [List.isEmpty_iff]; exact ht.1), ih]

/-- **What `_truncate_to_tokens` returns**: a text whose tokens are the first `max_tokens` tokens of the input, their
number, and the `truncated` flag exactly when something was cut or the budget is ≤ 0; an unflagged text is the
input itself. -/
theorem truncate_spec (s : Str) (m : Int) :
    tokenize (truncate s m).text = (tokenize s).take m.toNat ∧
    (truncate s m).tokens = min m.toNat (tokenize s).length ∧
    ((truncate s m).truncated = true ↔ m ≤ 0 ∨ m < (tokenize s).length) ∧
    ((truncate s m).truncated = false → (truncate s m).text = s) := by
  unfold truncate
  simp only
  by_cases h0 : m ≤ 0
  · rw [if_pos h0, Int.toNat_of_nonpos h0]
    exact ⟨rfl, (Nat.zero_min _).symm, iff_of_true rfl (Or.inl h0), fun h => nomatch h⟩
  · rw [if_neg h0]
    by_cases hle : ((tokenize s).length : Int) ≤ m
    · have hn : (tokenize s).length ≤ m.toNat := (Int.le_toNat (Int.le_of_lt (Int.not_le.1 h0))).2 hle
      rw [if_pos hle]
      exact ⟨(List.take_of_length_le hn).symm, (Nat.min_eq_right hn).symm,
        iff_of_false Bool.false_ne_true (not_or.2 ⟨h0, Int.not_lt.2 hle⟩), fun _ => rfl⟩
    · rw [if_neg hle]
      exact ⟨tokenize_joinSp _ fun t ht => tokenize_isTok s t (List.mem_of_mem_take ht),
        (Nat.min_eq_left (Int.toNat_le.2 (Int.le_of_lt (Int.not_le.1 hle)))).symm,
        iff_of_true rfl (Or.inr (Int.not_le.1 hle)), fun h => nomatch h⟩

end Clem.T3
