import Clem.Model.Refl

/-!
Helper lemmas for C19 (reflection): splitting / joining on whitespace, the token bound of
`_truncate_tokens`, and the shape of normalised text.
-/

namespace Clem.Refl

theorem consHead_ne_nil (c : Nat) (l : List Str) : consHead c l ≠ [] := by
  cases l <;> simp [consHead]

theorem splitBy_ne_nil (p : Nat → Bool) (s : Str) : splitBy p s ≠ [] := by
  cases s with
  | nil => simp [splitBy]
  | cons c cs =>
    simp only [splitBy]
    split
    · simp
    · exact consHead_ne_nil _ _

theorem consHead_flatten (c : Nat) (l : List Str) : (consHead c l).flatten = c :: l.flatten := by
  cases l <;> simp [consHead]

/-- The pieces, put end to end, are the text without its separators. -/
theorem splitBy_flatten (p : Nat → Bool) (s : Str) : (splitBy p s).flatten = s.filter (fun c => !p c) := by
  induction s with
  | nil => rfl
  | cons c cs ih => cases hc : p c <;> simp [splitBy, hc, consHead_flatten, ih]

theorem splitBy_mem (p : Nat → Bool) (s : Str) :
    ∀ w ∈ splitBy p s, ∀ c ∈ w, c ∈ s ∧ p c = false := by
  intro w hw c hc
  have h : c ∈ (splitBy p s).flatten := List.mem_flatten.2 ⟨w, hw, hc⟩
  rw [splitBy_flatten, List.mem_filter] at h
  exact ⟨h.1, by simpa using h.2⟩

/-- A separator-free prefix goes to the front of the first piece. -/
theorem splitBy_append (p : Nat → Bool) (a : Str) (ha : ∀ c ∈ a, p c = false) {t w : Str} {l : List Str}
    (h : splitBy p t = w :: l) : splitBy p (a ++ t) = (a ++ w) :: l := by
  induction a with
  | nil => exact h
  | cons c a ih =>
    have hc : p c = false := ha c (by simp)
    simp [splitBy, hc, ih fun d hd => ha d (List.mem_cons_of_mem _ hd), consHead]

theorem isWs_32 : isWs 32 = true := by decide

theorem joinSp_cons (a : Str) (r : List Str) : joinSp (a :: r) = a ++ if r = [] then [] else 32 :: joinSp r := by
  cases r <;> simp [joinSp]

/-- `" ".join(ps).split()` gives `ps` back when the pieces are whitespace-free (before dropping empties). -/
theorem splitBy_joinSp (ps : List Str) (hne : ps ≠ [])
    (hfree : ∀ w ∈ ps, ∀ c ∈ w, isWs c = false) : splitBy isWs (joinSp ps) = ps := by
  induction ps with
  | nil => exact absurd rfl hne
  | cons a r ih =>
    cases r with
    | nil =>
      have := splitBy_append isWs a (hfree a (by simp)) (t := []) rfl
      rwa [List.append_nil] at this
    | cons b r =>
      have hr := ih (by simp) fun w hw => hfree w (List.mem_cons_of_mem _ hw)
      have := splitBy_append isWs a (hfree a (by simp)) (t := 32 :: joinSp (b :: r))
        (by rw [splitBy, if_pos isWs_32, hr])
      rwa [List.append_nil] at this

theorem tokenCount_joinSp_le (ps : List Str) (hfree : ∀ w ∈ ps, ∀ c ∈ w, isWs c = false) :
    tokenCount (joinSp ps) ≤ ps.length := by
  cases ps with
  | nil => simp [tokenCount, wsSplit, joinSp, splitBy, nonEmpty]
  | cons a r =>
    unfold tokenCount wsSplit
    rw [splitBy_joinSp (a :: r) (by simp) hfree]
    exact List.length_filter_le _ _

/-- The only whitespace characters of `s` are spaces (true of everything `_normalize` and the fixture
adapter's clipping produce). -/
def OnlySp (s : Str) : Prop := ∀ c ∈ s, isWs c = true → c = 32

theorem spSplit_wsfree (s : Str) (h : OnlySp s) : ∀ w ∈ spSplit s, ∀ c ∈ w, isWs c = false := by
  intro w hw c hc
  obtain ⟨hcs, hsp⟩ := splitBy_mem isSp s w hw c hc
  refine Bool.eq_false_iff.2 fun hws => ?_
  rw [h c hcs hws] at hsp
  cases hsp

theorem truncateTokens_eq (text : Str) (n : Int) :
    truncateTokens text n =
      if n ≤ 0 || text.isEmpty then [] else joinSp ((spSplit text).take n.toNat) := by
  unfold truncateTokens
  split
  · rfl
  · simp only
    split
    · rename_i h; rw [List.take_of_length_le h]
    · rfl

/-- **Token bound of `_truncate_tokens`** on text whose only whitespace is the single space. -/
theorem tokenCount_truncate_le (text : Str) (n : Int) (h : OnlySp text) :
    tokenCount (truncateTokens text n) ≤ (max 0 n).toNat := by
  rw [truncateTokens_eq]
  split
  · exact Nat.zero_le _
  · refine Nat.le_trans (tokenCount_joinSp_le _ fun w hw => spSplit_wsfree text h w (List.mem_of_mem_take hw)) ?_
    rw [List.length_take]
    exact Nat.le_trans (Nat.min_le_left ..) (Int.toNat_le_toNat (Int.le_max_right 0 n))

theorem joinSp_mem (ps : List Str) : ∀ c ∈ joinSp ps, c = 32 ∨ ∃ w ∈ ps, c ∈ w := by
  induction ps with
  | nil => nofun
  | cons a r ih =>
    intro c hc
    rw [joinSp_cons, List.mem_append] at hc
    rcases hc with h | h
    · exact Or.inr ⟨a, List.mem_cons_self, h⟩
    · split at h
      · cases h
      · rcases List.mem_cons.mp h with h | h
        · exact Or.inl h
        · exact (ih c h).imp_right fun ⟨w, hw, hcw⟩ => ⟨w, List.mem_cons_of_mem _ hw, hcw⟩

theorem wsSplit_wsfree (s : Str) : ∀ w ∈ wsSplit s, ∀ c ∈ w, isWs c = false := by
  intro w hw c hc
  unfold wsSplit at hw
  exact (splitBy_mem isWs s w (List.mem_filter.mp hw).1 c hc).2

theorem joinSp_onlySp (ps : List Str) (h : ∀ w ∈ ps, OnlySp w) : OnlySp (joinSp ps) := by
  intro c hc hws
  rcases joinSp_mem ps c hc with h' | ⟨w, hw, hcw⟩
  · exact h'
  · exact h w hw c hcw hws

theorem joinSp_onlySp_of_wsfree (ps : List Str) (hfree : ∀ w ∈ ps, ∀ c ∈ w, isWs c = false) : OnlySp (joinSp ps) :=
  joinSp_onlySp ps fun w hw c hc hws => by rw [hfree w hw c hc] at hws; cases hws

/-- `str.rstrip()`: `strip` drops leading whitespace and then trims on the right. -/
def trimR (l : Str) : Str := (l.reverse.dropWhile isWs).reverse

theorem trimR_cons (x : Nat) (l : Str) :
    trimR (x :: l) = if isWs x && (trimR l).isEmpty then [] else x :: trimR l := by
  unfold trimR
  rw [List.reverse_cons, List.dropWhile_append]
  cases l.reverse.dropWhile isWs with
  | nil => cases hx : isWs x <;> simp [hx]
  | cons d D => simp

def startsWs : Str → Bool
  | [] => false
  | c :: _ => isWs c

theorem wsSplit_cons_ws (c : Nat) (cs : Str) (h : isWs c = true) : wsSplit (c :: cs) = wsSplit cs := by
  simp [wsSplit, splitBy, h, nonEmpty]

theorem wsSplit_cons_sep (c : Nat) (cs : Str) (h : isWs c = false) (hs : cs = [] ∨ startsWs cs = true) :
    wsSplit (c :: cs) = [c] :: wsSplit cs := by
  rcases hs with rfl | hs
  · simp [wsSplit, splitBy, h, nonEmpty, consHead]
  · cases cs with
    | nil => simp [startsWs] at hs
    | cons d ds =>
      simp only [startsWs] at hs
      simp [wsSplit, splitBy, h, hs, nonEmpty, consHead]

theorem wsSplit_cons_word (c d : Nat) (ds : Str) (h : isWs c = false) (hd : isWs d = false) :
    ∃ w rest, wsSplit (d :: ds) = w :: rest ∧ wsSplit (c :: d :: ds) = (c :: w) :: rest := by
  cases hsp : splitBy isWs ds with
  | nil => exact absurd hsp (splitBy_ne_nil _ _)
  | cons w0 ws0 =>
    refine ⟨d :: w0, ws0.filter nonEmpty, ?_, ?_⟩
    · simp [wsSplit, splitBy, hd, hsp, consHead, nonEmpty]
    · simp [wsSplit, splitBy, h, hd, hsp, consHead, nonEmpty]

theorem subRuns_false (t : Str) :
    subRuns isWs false t = (if startsWs t then [32] else []) ++ subRuns isWs true t := by
  cases t with
  | nil => rfl
  | cons c cs => cases hc : isWs c <;> simp only [subRuns, startsWs, hc] <;> rfl

theorem subRuns_true_noLead (t : Str) : (subRuns isWs true t).dropWhile isWs = subRuns isWs true t := by
  induction t with
  | nil => rfl
  | cons c cs ih =>
    cases hc : isWs c with
    | true => simpa only [subRuns, hc, if_true] using ih
    | false => simp only [subRuns, hc, Bool.false_eq_true, if_false, List.dropWhile_cons]

theorem wsSplit_nonEmpty (s : Str) : ∀ w ∈ wsSplit s, w ≠ [] := fun w hw h => by
  subst h; cases (List.mem_filter.mp hw).2

theorem joinSp_ne_nil {ps : List Str} (h : ps ≠ []) (hne : ∀ w ∈ ps, w ≠ []) : joinSp ps ≠ [] := by
  cases ps with
  | nil => exact absurd rfl h
  | cons a r =>
    cases a with
    | nil => exact absurd rfl (hne [] List.mem_cons_self)
    | cons x xs => rw [joinSp_cons]; exact List.cons_ne_nil _ _

/-- `_WS_RE.sub(" ", t)` after a whitespace character, trimmed on the right, is the tokens of `t` joined by single
spaces: a run of whitespace becomes the one space between two tokens, or is trimmed away when no token follows. -/
theorem trimR_subRuns (t : Str) : trimR (subRuns isWs true t) = joinSp (wsSplit t) := by
  induction t with
  | nil => rfl
  | cons c cs ih =>
    cases hc : isWs c with
    | true => rw [wsSplit_cons_ws c cs hc, ← ih]; simp only [subRuns, hc, if_true]
    | false =>
      have hcol : subRuns isWs true (c :: cs) = c :: subRuns isWs false cs := by simp only [subRuns, hc]; rfl
      rw [hcol, trimR_cons, hc, subRuns_false]
      cases hs : startsWs cs with
      | true =>
        rw [wsSplit_cons_sep c cs hc (Or.inr hs)]
        show c :: trimR (32 :: subRuns isWs true cs) = _
        rw [trimR_cons, ih]
        by_cases hW : wsSplit cs = []
        · rw [hW]; rfl
        · rw [joinSp_cons, if_neg hW, List.isEmpty_eq_false_iff.mpr (joinSp_ne_nil hW (wsSplit_nonEmpty cs))]; rfl
      | false =>
        show c :: trimR (subRuns isWs true cs) = _
        rw [ih]
        cases cs with
        | nil => rw [wsSplit_cons_sep c [] hc (Or.inl rfl)]; rfl
        | cons d ds =>
          obtain ⟨w, rest, hw, hw'⟩ := wsSplit_cons_word c d ds hc hs
          rw [hw', hw, joinSp_cons, joinSp_cons]; rfl

/-- **`_WS_RE.sub(" ", t).strip()` as written equals `" ".join(t.split())`.** -/
theorem normWs_eq (t : Str) : normWs t = joinSp (wsSplit t) := by
  rw [← trimR_subRuns]
  show trimR ((subRuns isWs false t).dropWhile isWs) = _
  rw [subRuns_false]
  cases startsWs t <;> exact congrArg trimR (subRuns_true_noLead t)

theorem normWs_onlySp (t : Str) : OnlySp (normWs t) := by
  rw [normWs_eq]; exact joinSp_onlySp_of_wsfree _ (wsSplit_wsfree t)

theorem normalize_onlySp (kp : Bool) (t : Str) : OnlySp (normalize kp t) := by
  unfold normalize
  split
  · intro c hc; simp at hc
  · split <;> exact normWs_onlySp _

theorem ruleRaw_onlySp (utter : Str) (snips : List Str) : OnlySp (ruleRaw utter snips) := by
  unfold ruleRaw
  apply joinSp_onlySp
  intro w hw
  have hw' := (List.mem_filter.mp hw).1
  rcases List.mem_cons.mp hw' with h | h
  · subst h; exact normalize_onlySp _ _
  · rcases List.mem_map.mp h with ⟨s, _, hs⟩
    subst hs; exact normalize_onlySp _ _

theorem adapterClip_onlySp (raw : Str) (m : Int) : OnlySp (adapterClip raw m) := by
  unfold adapterClip
  split
  · intro c hc; simp at hc
  · exact joinSp_onlySp_of_wsfree _ (fun w hw => wsSplit_wsfree raw w (List.mem_of_mem_take hw))

/-- Whitespace normalisation keeps the tokens: its output has exactly as many as its input. -/
theorem tokenCount_normWs (t : Str) : tokenCount (normWs t) = tokenCount t := by
  rw [normWs_eq]
  by_cases h : wsSplit t = []
  · unfold tokenCount
    rw [h]; simp [joinSp, wsSplit, splitBy, nonEmpty]
  · unfold tokenCount
    show ((splitBy isWs (joinSp (wsSplit t))).filter nonEmpty).length = _
    rw [splitBy_joinSp _ h (wsSplit_wsfree t)]
    exact congrArg _ (List.filter_eq_self.mpr fun w hw => (List.mem_filter.mp hw).2)

end Clem.Refl
