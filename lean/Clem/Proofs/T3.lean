/-
Lemmas for the T3 planner model (`Clem/Model/T3.lean`): laws of a NaN-aware comparison carrier, a lawful concrete
carrier (`Option Int`, `none` = NaN) used for non-vacuity examples, the cap step `capOps`, what `deliberate`
and `rag_once` return, and the T2 call count of a turn.
-/
import Clem.Model.T3

namespace Clem.T3

/-- What the proofs need from Python float comparisons: NaN compares false with everything, on non-NaN values
`<` is the negation of `>=`, and `>=` is transitive.  (IEEE-754 doubles satisfy this; so does any linear order
extended by a NaN.) -/
class LawfulPyOrd (α : Type) [PyOrd α] where
  isNaN : α → Bool
  ge_nan_left : ∀ a b : α, isNaN a = true → PyOrd.ge a b = false
  ge_nan_right : ∀ a b : α, isNaN b = true → PyOrd.ge a b = false
  lt_nan_left : ∀ a b : α, isNaN a = true → PyOrd.lt a b = false
  lt_nan_right : ∀ a b : α, isNaN b = true → PyOrd.lt a b = false
  lt_eq_not_ge : ∀ a b : α, isNaN a = false → isNaN b = false → PyOrd.lt a b = !PyOrd.ge a b
  ge_trans : ∀ a b c : α, PyOrd.ge a b = true → PyOrd.ge b c = true → PyOrd.ge a c = true

/-- integers extended by a NaN (`none`) -/
instance : PyOrd (Option Int) where
  ge a b := match a, b with
    | some x, some y => decide (y ≤ x)
    | _, _ => false
  lt a b := match a, b with
    | some x, some y => decide (x < y)
    | _, _ => false
  abs a := a.map (fun x => (x.natAbs : Int))
  zero := some 0

instance : LawfulPyOrd (Option Int) where
  isNaN a := a.isNone
  ge_nan_left a b h := by cases a <;> cases b <;> simp_all [PyOrd.ge]
  ge_nan_right a b h := by cases a <;> cases b <;> simp_all [PyOrd.ge]
  lt_nan_left a b h := by cases a <;> cases b <;> simp_all [PyOrd.lt]
  lt_nan_right a b h := by cases a <;> cases b <;> simp_all [PyOrd.lt]
  lt_eq_not_ge a b ha hb := by
    cases a <;> cases b <;> simp_all [PyOrd.lt, PyOrd.ge]
    rename_i x y
    by_cases h : x < y
    · have : ¬ y ≤ x := by omega
      simp [h, this]
    · have : y ≤ x := by omega
      simp [h, this]
  ge_trans a b c h1 h2 := by
    cases a <;> cases b <;> cases c <;> simp_all [PyOrd.ge]
    omega

section laws
variable {α : Type} [PyOrd α] [LawfulPyOrd α]
open LawfulPyOrd

/-- a comparison that came out true had no NaN operand: the contrapositive of each `*_nan_*` law -/
theorem not_nan_of {x : α} {c : Bool} (law : isNaN x = true → c = false) (h : c = true) : isNaN x = false :=
  Bool.eq_false_iff.2 fun hx => Bool.false_ne_true ((law hx).symm.trans h)

theorem ge_not_nan_left {a b : α} (h : PyOrd.ge a b = true) : isNaN a = false :=
  not_nan_of (ge_nan_left a b) h

theorem lt_not_ge {a b : α} (h : PyOrd.lt a b = true) : PyOrd.ge a b = false := by
  rw [← Bool.not_eq_true', ← lt_eq_not_ge a b (not_nan_of (lt_nan_left a b) h) (not_nan_of (lt_nan_right a b) h)]
  exact h

theorem lt_of_ge_of_lt {s s' t : α} (h : PyOrd.ge s' s = true) (hl : PyOrd.lt s' t = true) :
    PyOrd.lt s t = true := by
  rw [lt_eq_not_ge s t (not_nan_of (ge_nan_right s' s) h) (not_nan_of (lt_nan_right s' t) hl), Bool.not_eq_true']
  exact Bool.eq_false_iff.2 fun hg => Bool.false_ne_true ((lt_not_ge hl).symm.trans (ge_trans s' s t h hg))

end laws

theorem pyTake_eq_take {β : Type} (l : List β) (n : Int) : ∃ k, pyTake l n = l.take k := by
  unfold pyTake; split <;> exact ⟨_, rfl⟩

theorem capOps_eq_take (ops : List Op) (caps : Int) : ∃ k, capOps ops caps = ops.take k := by
  unfold capOps
  split
  · exact pyTake_eq_take _ _
  · exact ⟨ops.length, (List.take_length).symm⟩

theorem capOps_of_le {ops : List Op} {caps : Int} (h : (ops.length : Int) ≤ caps) : capOps ops caps = ops :=
  if_neg (Int.not_lt.2 h)

/-- `l[:n]` has at most `max 0 n` elements when `n` is non-negative — or when `l` has at most one element: a
negative `n` only drops the last `-n` elements -/
theorem pyTake_length {β : Type} (l : List β) (n : Int) (h : 0 ≤ n ∨ l.length ≤ 1) :
    ((pyTake l n).length : Int) ≤ max 0 n := by
  unfold pyTake
  by_cases h0 : 0 ≤ n
  · rw [if_pos h0]
    exact Int.le_trans (Int.ofNat_le.2 (List.length_take_le _ _))
      (Int.le_trans (Int.le_of_eq (Int.toNat_of_nonneg h0)) (Int.le_max_right _ _))
  · rw [if_neg h0, Nat.sub_eq_zero_of_le (Nat.le_trans (h.resolve_left h0)
      (Int.lt_toNat.2 (Int.neg_pos_of_neg (Int.not_le.1 h0))))]
    exact Int.le_max_left _ _

theorem capOps_length (ops : List Op) (caps : Int) (h : 0 ≤ caps ∨ ops.length ≤ 1) :
    ((capOps ops caps).length : Int) ≤ max 0 caps := by
  unfold capOps
  by_cases hlt : caps < (ops.length : Int)
  · rw [if_pos hlt]; exact pyTake_length ops caps h
  · rw [if_neg hlt]; exact Int.le_trans (Int.not_lt.1 hlt) (Int.le_max_right _ _)

section planner
variable {α : Type} [PyOrd α]

theorem withEdit_eq (b : Bundle α) (caps : Int) (ops : List Op) :
    ∃ E, withEdit b caps ops = ops ++ E ∧ (E = [] ∨ ∃ ids c, E = [Op.edit ids c]) := by
  unfold withEdit
  simp only
  split
  · exact ⟨[], (List.append_nil _).symm, Or.inl rfl⟩
  · exact ⟨_, rfl, Or.inr ⟨_, _, rfl⟩⟩

theorem withEdit_length_le (b : Bundle α) (caps : Int) (ops : List Op) :
    (withEdit b caps ops).length ≤ ops.length + 1 := by
  obtain ⟨E, hE, rfl | ⟨_, _, rfl⟩⟩ := withEdit_eq b caps ops <;> rw [hE, List.length_append]
  · exact Nat.le_succ _
  · exact Nat.le_refl _

theorem delibEdit_eq (b : Bundle α) (caps : Int) (ops : List Op) :
    ∃ E, delibEdit b caps ops = ops ++ E ∧
      (E = [] ∨ PyOrd.ge b.sMax b.tauLow = true ∧ (ops.length : Int) < caps ∧ ∃ ids c, E = [Op.edit ids c]) := by
  unfold delibEdit
  split
  · rename_i h
    rw [Bool.and_eq_true, decide_eq_true_eq] at h
    obtain ⟨E, hE, hs⟩ := withEdit_eq b caps ops
    exact ⟨E, hE, hs.imp_right fun hs => ⟨h.1, h.2, hs⟩⟩
  · exact ⟨[], (List.append_nil _).symm, Or.inl rfl⟩

theorem delibRetrieve_eq (b : Bundle α) (caps : Int) (ops : List Op) :
    delibRetrieve b caps ops =
      ops ++ if PyOrd.lt b.sMax b.tauLow = true ∧ (ops.length : Int) < caps then [retrieveOf b] else [] := by
  unfold delibRetrieve
  simp only [Bool.and_eq_true, decide_eq_true_eq]
  split
  · rfl
  · exact (List.append_nil _).symm

/-- **What `deliberate` returns.**  Before the cap step the plan is the Speak op, then at most one edit (only at or
above the low threshold), then the retrieval request exactly when the score is below the low threshold; each of the
two only while the ops so far are fewer than the cap.  So that list never grows beyond a cap of 1 or more and the cap
step has nothing to cut, while a cap of 0 or less leaves the Speak op alone and the cap step removes it. -/
theorem deliberate_cases (b : Bundle α) :
    capsOps b ≤ 0 ∧ deliberate b = [] ∨
    0 < capsOps b ∧ ∃ E R, deliberate b = speakOf b b.sMax :: (E ++ R) ∧
      (E = [] ∨ PyOrd.ge b.sMax b.tauLow = true ∧ 1 < capsOps b ∧ ∃ ids c, E = [Op.edit ids c]) ∧
      R = (if PyOrd.lt b.sMax b.tauLow = true ∧ ((speakOf b b.sMax :: E).length : Int) < capsOps b
        then [retrieveOf b] else []) := by
  obtain ⟨E, hE, hs⟩ := delibEdit_eq b (capsOps b) [speakOf b b.sMax]
  have hpre := (congrArg _ hE).trans (delibRetrieve_eq b (capsOps b) _)
  have hlen : ((delibRetrieve b (capsOps b) (delibEdit b (capsOps b) [speakOf b b.sMax])).length : Int)
      ≤ max 1 (capsOps b) := by
    rw [hpre]
    by_cases hr : PyOrd.lt b.sMax b.tauLow = true ∧ (([speakOf b b.sMax] ++ E).length : Int) < capsOps b
    · rw [if_pos hr, List.length_append]
      exact Int.le_trans hr.2 (Int.le_max_right 1 _)
    · rw [if_neg hr, List.append_nil]
      rcases hs with rfl | ⟨_, h1, _, _, rfl⟩
      · exact Int.le_max_left 1 _
      · exact Int.le_trans h1 (Int.le_max_right 1 _)
  rcases Int.lt_or_le 0 (capsOps b) with h | h
  · exact Or.inr ⟨h, E, _, (capOps_of_le (Int.le_trans hlen (Int.max_le.2 ⟨h, Int.le_refl _⟩))).trans hpre, hs, rfl⟩
  · have h1 := Int.ofNat_le.1 (Int.le_trans hlen (Int.max_le.2 ⟨Int.le_refl 1, Int.le_trans h (by decide)⟩))
    have h0 := Int.le_trans (capOps_length _ (capsOps b) (Or.inr h1)) (Int.max_le.2 ⟨Int.le_refl 0, h⟩)
    exact Or.inl ⟨h, List.eq_nil_of_length_eq_zero (Nat.le_zero.1 (Int.ofNat_le.1 h0))⟩

theorem deliberate_nonpos (b : Bundle α) (h : capsOps b ≤ 0) : deliberate b = [] :=
  (deliberate_cases b).elim And.right fun h' => absurd h'.1 (Int.not_lt.2 h)

theorem normOwner_ne_other (o : Owner) : normOwner o ≠ .other := by
  cases o <;> decide

theorem firstRR_isSome : ∀ plan : List Op, (firstRR plan).isSome = plan.any Op.isRetrieve
  | [] => rfl
  | .retrieve _ _ :: _ => rfl
  | .speak _ _ _ :: t => firstRR_isSome t
  | .edit _ _ :: t => firstRR_isSome t
  | .other :: t => firstRR_isSome t

/-- `rag_once` either hands the plan back untouched (refinement already used, or nothing requested; `ragBlocked`
tells which) or refines it on the first request's payload -/
theorem ragOnce_cases (b : Bundle α) (plan : List Op) (r : Owner × Int → List (Hit α)) (used : Bool) :
    ((used = true ∨ plan.any Op.isRetrieve = false) ∧
      ragOnce b plan r used = ⟨plan, [], false, used, b.sMax, []⟩) ∨
    (used = false ∧ plan.any Op.isRetrieve = true ∧ ∃ rr, firstRR plan = some rr ∧
      ragOnce b plan r used = ragRefine b plan (normPayload rr) (r (normPayload rr))) := by
  have hany := firstRR_isSome plan
  cases used
  · unfold ragOnce
    cases h : firstRR plan <;> rw [h] at hany
    · exact Or.inl ⟨Or.inr hany.symm, rfl⟩
    · exact Or.inr ⟨rfl, hany.symm, _, rfl, rfl⟩
  · exact Or.inl ⟨Or.inl rfl, rfl⟩

theorem ragOnce_calls_le_one (b : Bundle α) (plan : List Op) (r : Owner × Int → List (Hit α)) (used : Bool) :
    (ragOnce b plan r used).calls.length ≤ 1 := by
  rcases ragOnce_cases b plan r used with ⟨_, h⟩ | ⟨_, _, rr, _, h⟩ <;> rw [h]
  · exact Nat.zero_le 1
  · exact Nat.le_refl 1

/-- the T2 stage itself, plus `rag_once`'s one call only when the loop bound admits a refinement -/
theorem turnT2Calls_le (t : TurnIn) (b : Bundle α) (plan : List Op) (r : Owner × Int → List (Hit α)) :
    turnT2Calls t b plan r ≤ 1 ∨ 1 ≤ t.maxRagLoops ∧ turnT2Calls t b plan r ≤ 2 := by
  have h1 : (if t.cacheHit = true then 0 else 1) ≤ 1 := by cases t.cacheHit <;> decide
  unfold turnT2Calls
  generalize (if t.cacheHit = true then 0 else 1) = stage at h1 ⊢
  split
  · rename_i h
    exact Or.inr ⟨of_decide_eq_true (Bool.and_eq_true_iff.1 h).2,
      Nat.add_le_add h1 (ragOnce_calls_le_one b plan r false)⟩
  · exact Or.inl h1

theorem ragEdit_eq (b : Bundle α) (caps : Int) (post : α) (hadEdit : Bool) (ops : List Op) :
    ∃ E, ragEdit b caps post hadEdit ops = ops ++ E ∧ (E = [] ∨ ∃ ids c, E = [Op.edit ids c]) := by
  unfold ragEdit
  split
  · exact withEdit_eq b caps ops
  · exact ⟨[], (List.append_nil _).symm, Or.inl rfl⟩

theorem replaceFirstSpeak_head (new : Op) (plan : List Op) (h : headIsSpeak plan = true) :
    plan = [] ∨ ∃ t, replaceFirstSpeak new plan = new :: t := by
  cases plan with
  | nil => exact Or.inl rfl
  | cons o t => exact Or.inr ⟨t, if_pos h⟩

end planner

end Clem.T3
