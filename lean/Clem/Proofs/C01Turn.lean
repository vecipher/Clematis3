/-
C01 — lemmas about the clock skeleton (`Clem/Model/C01Turn.lean`).
-/
import Clem.Model.C01Turn

namespace Clem.C01

theorem yieldReason_congr (cfg : Cfg) (ms ms' : Int) (i p k o : Option Int)
    (h1 : wallHit cfg ms = wallHit cfg ms') (h2 : quantumHit cfg ms = quantumHit cfg ms') :
    yieldReason cfg ms i p k o = yieldReason cfg ms' i p k o := by
  unfold yieldReason
  rw [h1, h2]

theorem timeHits_at {cfg : Cfg} {d d' : Dec} (h : timeHits cfg d = timeHits cfg d') (i : Nat) (hi : i < 5) :
    wallHit cfg (d.elAt i) = wallHit cfg (d'.elAt i) ∧ quantumHit cfg (d.elAt i) = quantumHit cfg (d'.elAt i) :=
  Prod.mk.inj (List.map_inj_left.1 h i (List.mem_range.2 hi))

theorem decEquivB_sched {cfg : Cfg} {d d' : Dec} (h : decEquivB cfg d d' = true) (hs : cfg.schedOn = true) :
    timeHits cfg d = timeHits cfg d' := by
  unfold decEquivB at h
  simp only [hs, Bool.not_true, Bool.false_or, Bool.and_eq_true, beq_iff_eq] at h
  exact h.1

theorem decEquivB_cache {cfg : Cfg} {d d' : Dec} (h : decEquivB cfg d d' = true) (hc : cfg.cacheOn = true) :
    expired cfg d = expired cfg d' := by
  unfold decEquivB at h
  simp only [hc, Bool.not_true, Bool.false_or, Bool.and_eq_true, beq_iff_eq] at h
  exact h.2

theorem t2Step_congr {cfg : Cfg} {d d' : Dec} (h : decEquivB cfg d d' = true) (t : TurnIn) (c : List CEntry) :
    t2Step cfg d t c = t2Step cfg d' t c := by
  unfold t2Step
  by_cases hc : cfg.cacheOn = true
  · have he := decEquivB_cache h hc
    unfold expired at he
    simp only [hc, Bool.not_true]
    split
    · rfl
    · rw [he]
  · simp [hc]

theorem ys_congr {cfg : Cfg} {d d' : Dec} (h : decEquivB cfg d d' = true) (t : TurnIn) (k2 : Option Int) :
    ys cfg d t k2 = ys cfg d' t k2 := by
  -- with the scheduler on, equal time hits give equal yield reasons at each of the five boundaries
  have hy : cfg.schedOn = true → ∀ i, i < 5 → ∀ a b k o,
      yieldReason cfg (d.elAt i) a b k o = yieldReason cfg (d'.elAt i) a b k o := fun hs i hi a b k o =>
    yieldReason_congr cfg _ _ a b k o (timeHits_at (decEquivB_sched h hs) i hi).1
      (timeHits_at (decEquivB_sched h hs) i hi).2
  funext i
  rcases i with _ | _ | _ | _ | _ | _
  · exact ite_congr rfl (fun hs => hy hs 0 (by omega) ..) (fun _ => rfl)
  · exact ite_congr rfl (fun hs => hy hs 1 (by omega) ..) (fun _ => rfl)
  · exact ite_congr rfl (fun hs => hy (Bool.and_eq_true_iff.mp hs).1 2 (by omega) ..) (fun _ => rfl)
  · exact ite_congr rfl (fun hs => hy hs 3 (by omega) ..) (fun _ => rfl)
  · exact ite_congr rfl (fun hs => hy hs 4 (by omega) ..) (fun _ => rfl)
  · rfl

theorem canon_append (ci : Bool) (a b : List Rec) : canon ci (a ++ b) = canon ci a ++ canon ci b := by
  simp [canon]

theorem canon_cons (ci : Bool) (r : Rec) (l : List Rec) :
    canon ci (r :: l) = (if r.stream.canonical then [canonRec ci r] else []) ++ canon ci l := by
  unfold canon
  by_cases h : r.stream.canonical = true <;> simp [h]

theorem canon_nil (ci : Bool) : canon ci [] = [] := rfl

@[simp] theorem t1Rec_stream (cfg : Cfg) (d : Dec) (t : TurnIn) : (t1Rec cfg d t).stream = .t1 := rfl
@[simp] theorem t2Rec_stream (cfg : Cfg) (r2 : T2Res) (d : Dec) (t : TurnIn) : (t2Rec cfg r2 d t).stream = .t2 := rfl
@[simp] theorem t4Rec_stream (cfg : Cfg) (d : Dec) (t : TurnIn) : (t4Rec cfg d t).stream = .t4 := rfl
@[simp] theorem apRec_stream (cfg : Cfg) (d : Dec) (t : TurnIn) : (apRec cfg d t).stream = .apply := rfl
@[simp] theorem turnRec_stream (cfg : Cfg) (t : TurnIn) (s l : List Int) : (turnRec cfg t s l).stream = .turn := rfl

theorem t1Rec_vol (cfg : Cfg) (d d' : Dec) (t : TurnIn) :
    canonRec true (t1Rec cfg d t) = canonRec true (t1Rec cfg d' t) := by
  simp [canonRec, normalize, t1Rec, Stream.identity]

theorem t2Rec_vol (cfg : Cfg) (r2 : T2Res) (d d' : Dec) (t : TurnIn) :
    canonRec true (t2Rec cfg r2 d t) = canonRec true (t2Rec cfg r2 d' t) := by
  simp [canonRec, normalize, t2Rec, Stream.identity]

theorem t4Rec_vol (cfg : Cfg) (d d' : Dec) (t : TurnIn) :
    canonRec true (t4Rec cfg d t) = canonRec true (t4Rec cfg d' t) := by
  simp [canonRec, normalize, t4Rec, Stream.identity]

theorem apRec_vol (cfg : Cfg) (d d' : Dec) (t : TurnIn) :
    canonRec true (apRec cfg d t) = canonRec true (apRec cfg d' t) := by
  simp [canonRec, normalize, apRec, Stream.identity]

/-- `canon` is computed record by record: lists whose records agree after `canonRec` agree after `canon` -/
theorem canon_cons_congr {ci : Bool} {r r' : Rec} {l l' : List Rec} (hr : canonRec ci r = canonRec ci r')
    (hl : canon ci l = canon ci l') (hs : r.stream = r'.stream := by rfl) :
    canon ci (r :: l) = canon ci (r' :: l') := by
  rw [canon_cons, canon_cons, hs, hr, hl]

theorem canon_append_congr {ci : Bool} {a a' b b' : List Rec} (ha : canon ci a = canon ci a')
    (hb : canon ci b = canon ci b') : canon ci (a ++ b) = canon ci (a' ++ b') := by
  rw [canon_append, canon_append, ha, hb]

/-- of the durations only their number survives -/
theorem turnRec_vol (cfg : Cfg) (t : TurnIn) (s : List Int) {durs durs' : List Int}
    (h : durs.length = durs'.length) :
    canonRec true (turnRec cfg t s durs) = canonRec true (turnRec cfg t s durs') := by
  simp [canonRec, normalize, turnRec, Stream.identity, List.map_const', h]

theorem t3Recs_vol (cfg : Cfg) (d d' : Dec) (t : TurnIn) :
    canon true (t3Recs cfg d t) = canon true (t3Recs cfg d' t) := by
  unfold t3Recs
  by_cases h : cfg.t3On = true <;> simp [h, canon, Stream.canonical]

theorem yieldRecs_vol (cfg : Cfg) (t : TurnIn) (r s : Nat) (e e' : Int) (cons summ : List Int)
    {durs durs' : List Int} (h : durs.length = durs'.length) :
    canon true (yieldRecs cfg t r s e cons summ durs) = canon true (yieldRecs cfg t r s e' cons summ durs') := by
  simp [canon, canonRec, normalize, yieldRecs, Stream.identity, Stream.canonical, List.map_const', h]

/-- With the decisions fixed, the clock contribution only reaches fields that the canonical form erases. -/
theorem turnCore_vol (cfg : Cfg) (hci : cfg.ci = true) (y : Nat → Nat) (r2 : T2Res) (d d' : Dec) (t : TurnIn)
    (c : List CEntry) :
    canonOut cfg (turnCore cfg y r2 d t c) = canonOut cfg (turnCore cfg y r2 d' t c) := by
  have e1 := canon_cons_congr (t1Rec_vol cfg d d' t) (rfl : canon true [] = canon true [])
  have e12 := canon_cons_congr (t1Rec_vol cfg d d' t)
    (canon_cons_congr (t2Rec_vol cfg r2 d d' t) (rfl : canon true [] = canon true []))
  have e123 := canon_append_congr e12 (t3Recs_vol cfg d d' t)
  have e4 := canon_cons_congr (t4Rec_vol cfg d d' t) (rfl : canon true [] = canon true [])
  have e45 := canon_cons_congr (t4Rec_vol cfg d d' t)
    (canon_cons_congr (apRec_vol cfg d d' t) (rfl : canon true [] = canon true []))
  have out : ∀ {r r' : List Rec} {l : Int} {c : List CEntry}, canon true r = canon true r' →
      canonOut cfg ⟨r, l, c⟩ = canonOut cfg ⟨r', l, c⟩ := by
    intro r r' l c h
    unfold canonOut
    rw [hci]
    exact congrArg (Out.mk · l c) h
  have yld := fun r s e e' cons summ {durs durs' : List Int} (h : durs.length = durs'.length) =>
    yieldRecs_vol cfg t r s e e' cons summ h
  have fin : ∀ s {durs durs' : List Int}, durs.length = durs'.length →
      canon true [turnRec cfg t s durs] = canon true [turnRec cfg t s durs'] :=
    fun s _ _ h => canon_cons_congr (turnRec_vol cfg t s h) rfl
  -- every branch is a prefix of the stage records followed by the records of a yield or the final record
  unfold turnCore
  by_cases h0 : (y 0 != 0) = true
  · rw [if_pos h0, if_pos h0]
    exact out (canon_append_congr e1 (yld _ _ _ _ _ _ rfl))
  rw [if_neg h0, if_neg h0]
  by_cases h1 : (y 1 != 0) = true
  · rw [if_pos h1, if_pos h1]
    exact out (canon_append_congr e12 (yld _ _ _ _ _ _ rfl))
  rw [if_neg h1, if_neg h1]
  by_cases h2 : (y 2 != 0) = true
  · rw [if_pos h2, if_pos h2]
    exact out (canon_append_congr e12 (yld _ _ _ _ _ _ rfl))
  rw [if_neg h2, if_neg h2]
  by_cases h4 : (!cfg.t4On) = true
  · rw [if_pos h4, if_pos h4]
    exact out (canon_append_congr e123 (fin _ rfl))
  rw [if_neg h4, if_neg h4]
  by_cases h3 : (y 3 != 0) = true
  · rw [if_pos h3, if_pos h3]
    exact out (canon_append_congr (canon_append_congr e123 e4) (yld _ _ _ _ _ _ rfl))
  rw [if_neg h3, if_neg h3]
  by_cases h5 : (y 4 != 0) = true
  · rw [if_pos h5, if_pos h5]
    exact out (canon_append_congr (canon_append_congr e123 e45) (yld _ _ _ _ _ _ rfl))
  rw [if_neg h5, if_neg h5]
  exact out (canon_append_congr (canon_append_congr e123 e45) (fin _ rfl))

theorem turn_noninterference (cfg : Cfg) (hci : cfg.ci = true) (d d' : Dec) (t : TurnIn) (c : List CEntry)
    (h : decEquivB cfg d d' = true) :
    canonOut cfg (turn cfg d t c) = canonOut cfg (turn cfg d' t c) := by
  unfold turn
  simp only []
  rw [t2Step_congr h t c, ys_congr h t]
  exact turnCore_vol cfg hci _ _ d d' t c

theorem turn_cache_congr (cfg : Cfg) (hci : cfg.ci = true) (d d' : Dec) (t : TurnIn) (c : List CEntry)
    (h : decEquivB cfg d d' = true) : (turn cfg d t c).cache = (turn cfg d' t c).cache := by
  have := congrArg Out.cache (turn_noninterference cfg hci d d' t c h)
  simpa [canonOut] using this

end Clem.C01
