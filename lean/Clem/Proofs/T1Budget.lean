import Clem.Proofs.T1Cases

/-!
Counters and budgets of the T1 model: the counters equal event counts; the perf dedupe ring and visited
set are inert as the code is written (`if ring:` / `if visited_lru:` test `__len__` of containers that
start empty); relaxation cap, pop budget, frontier cap; at the end what one graph reports and how
`addGraph` adds it up when nothing is cached.
-/

namespace Clem.T1
open Num

variable {α : Type} [Num α]
set_option linter.unusedSectionVars false

/-- the dedupe ring and the visited set are absent or empty, nothing was ever deduplicated or skipped -/
structure Inert (st : St α) : Prop where
  ring : st.ring = none ∨ st.ring = some []
  visited : st.visited = none ∨ st.visited = some []
  dedup : st.dedupHits = 0
  visEv : st.visitedEv = 0
  noDedupEv : st.evs.countP Ev.isDedup = 0
  noVisitedEv : st.evs.countP Ev.isVisitedSkip = 0

theorem ringHit_inert {r : Option (List Nat)} (h : r = none ∨ r = some []) (x : Nat) :
    ringHit r x = false := by
  rcases h with h | h <;> subst h <;> simp [ringHit]

theorem ringAddIf_inert {r : Option (List Nat)} (h : r = none ∨ r = some []) (k x : Nat) :
    ringAddIf k r x = r := by
  rcases h with h | h <;> subst h <;> simp [ringAddIf]

theorem visitedHit_inert {r : Option (List Nat)} (h : r = none ∨ r = some []) (x : Nat) :
    visitedHit r x = false := by
  rcases h with h | h <;> subst h <;> simp [visitedHit]

theorem visitedMark_inert (c : Cfg α) (st : St α) (u : Nat)
    (h : st.visited = none ∨ st.visited = some []) : visitedMark c st u = st := by
  unfold visitedMark
  rcases h with h | h <;> simp [h]

theorem Inert_st0 (c : Cfg α) : Inert (st0 c) := by
  refine ⟨?_, ?_, rfl, rfl, rfl, rfl⟩
  · simp only [st0]; split <;> simp
  · simp only [st0]; split <;> simp

theorem Inert_cons {st st' : St α} (e : Ev α) (hr : st'.ring = st.ring) (hv : st'.visited = st.visited)
    (hd : st'.dedupHits = st.dedupHits) (hve : st'.visitedEv = st.visitedEv)
    (hevs : st'.evs = e :: st.evs) (he : Ev.isDedup e = false) (he' : Ev.isVisitedSkip e = false)
    (h : Inert st) : Inert st' := by
  refine ⟨by rw [hr]; exact h.ring, by rw [hv]; exact h.visited, by rw [hd]; exact h.dedup,
    by rw [hve]; exact h.visEv, ?_, ?_⟩
  · rw [hevs]; simp [he, h.noDedupEv]
  · rw [hevs]; simp [he', h.noVisitedEv]

/-- with empty containers neither a dedupe hit nor a visited skip is ever recorded -/
theorem Inert_log {c : Cfg α} {st : St α} {e : Ev α} (hok : LogOK c st e) (h : Inert st) :
    Inert (logged st e) := by
  have hd : e.isDedup = false := by
    cases e with
    | dedupHit v => rw [LogOK, ringHit_inert h.ring] at hok; cases hok
    | _ => rfl
  have hv : e.isVisitedSkip = false := by
    cases e with
    | visitedSkip u => rw [LogOK, visitedHit_inert h.visited] at hok; cases hok
    | _ => rfl
  exact Inert_cons (st := st) e rfl rfl (by simp [logged, hd]) rfl rfl hd hv h

theorem Inert_final (c : Cfg α) (g : Graph α) (text : List Nat) : Inert (finalSt c g text) := by
  refine finalSt_induct (c := c) (fun st st' h hs => ?_) rfl (Inert_st0 c)
    (fun st it rest h _ => Inert_cons (st := st) (Ev.pop it.id it.w) rfl rfl rfl rfl rfl rfl rfl h)
  cases hs with
  | seed nid pq ring _ hpush =>
    -- the ring is empty, so the seed is queued and `if ring: ring.add(…)` adds nothing
    rcases hpush with ⟨hh, _⟩ | ⟨_, _, hr⟩
    · rw [ringHit_inert h.ring] at hh; cases hh
    · exact Inert_cons (st := st) (Ev.seed nid) (hr.trans (ringAddIf_inert h.ring _ _)) rfl rfl rfl rfl
        rfl rfl h
  | tally d f hd =>
    refine ⟨h.ring, h.visited, ?_, h.visEv, h.noDedupEv, h.noVisitedEv⟩
    rcases hd with hd | ⟨q, hq, hne⟩
    · exact hd
    · rcases h.ring with hr | hr <;> rw [hr] at hq <;> cases hq
      exact absurd rfl hne
  | log e hok => exact Inert_log hok h
  | mark u l =>
    refine ⟨h.ring, ?_, h.dedup, ?_, h.noDedupEv, h.noVisitedEv⟩
    · show (visitedMark c st u).visited = none ∨ _
      rw [visitedMark_inert c st u h.visited]; exact h.visited
    · show (visitedMark c st u).visitedEv = 0
      rw [visitedMark_inert c st u h.visited]; exact h.visEv
  | halt n => exact ⟨h.ring, h.visited, h.dedup, h.visEv, h.noDedupEv, h.noVisitedEv⟩
  | relax e u w dec => exact Inert_cons (st := st) (Ev.relax _) rfl rfl rfl rfl rfl rfl rfl h
  | push v x l r' =>
    exact Inert_cons (st := st) (Ev.push v x _) (ringAddIf_inert h.ring _ _) rfl rfl rfl rfl rfl rfl h

/-- each counter is the number of log events of its class -/
structure Counts (st : St α) : Prop where
  pops : st.pops = st.evs.countP Ev.isPop
  props : st.props = st.evs.countP Ev.isRelax
  radius : st.radiusHits = st.evs.countP Ev.isRadius
  layer : st.layerHits = st.evs.countP Ev.isLayer
  node : st.nodeHits = st.evs.countP Ev.isNodeHit

theorem Counts_cons {st st' : St α} (e : Ev α) (hevs : st'.evs = e :: st.evs)
    (h1 : st'.pops = st.pops + (if Ev.isPop e then 1 else 0))
    (h2 : st'.props = st.props + (if Ev.isRelax e then 1 else 0))
    (h3 : st'.radiusHits = st.radiusHits + (if Ev.isRadius e then 1 else 0))
    (h4 : st'.layerHits = st.layerHits + (if Ev.isLayer e then 1 else 0))
    (h5 : st'.nodeHits = st.nodeHits + (if Ev.isNodeHit e then 1 else 0))
    (h : Counts st) : Counts st' := by
  refine ⟨?_, ?_, ?_, ?_, ?_⟩
  · rw [h1, hevs, List.countP_cons, h.pops]
  · rw [h2, hevs, List.countP_cons, h.props]
  · rw [h3, hevs, List.countP_cons, h.radius]
  · rw [h4, hevs, List.countP_cons, h.layer]
  · rw [h5, hevs, List.countP_cons, h.node]

theorem Counts_final (c : Cfg α) (g : Graph α) (text : List Nat) : Counts (finalSt c g text) := by
  refine finalSt_induct (c := c) (fun st st' h hs => ?_) rfl ⟨rfl, rfl, rfl, rfl, rfl⟩
    (fun st it rest h _ => Counts_cons (st := st) (Ev.pop it.id it.w) rfl rfl rfl rfl rfl rfl h)
  cases hs with
  | seed nid pq ring => exact Counts_cons (st := st) (Ev.seed nid) rfl rfl rfl rfl rfl rfl h
  | log e hok =>
    exact Counts_cons (st := st) e rfl (by rw [hok.isPop]; rfl) (by rw [hok.isRelax]; rfl) rfl rfl rfl h
  | tally | mark | halt => exact ⟨h.pops, h.props, h.radius, h.layer, h.node⟩
  | relax e u w dec => exact Counts_cons (st := st) (Ev.relax _) rfl rfl rfl rfl rfl rfl h
  | push v x l r' => exact Counts_cons (st := st) (Ev.push v x _) rfl rfl rfl rfl rfl rfl h

theorem imax_eq_max (a b : Int) : imax a b = max a b := by unfold imax; split <;> omega
theorem imax_ge_right (a b : Int) : b ≤ imax a b := imax_eq_max a b ▸ Int.le_max_right a b
theorem imax_ge_left (a b : Int) : a ≤ imax a b := imax_eq_max a b ▸ Int.le_max_left a b
theorem imin_le_right (a b : Int) : imin a b ≤ b := by unfold imin; split <;> omega

theorem pushOrHit_stop (c : Cfg α) (st : St α) (v : Nat) (x : α) :
    (pushOrHit c st v x).stop = st.stop := by
  unfold pushOrHit pushMain
  exact iteInduction (motive := fun s : St α => s.stop = st.stop)
    (fun _ => iteInduction (motive := fun s : St α => s.stop = st.stop) (fun _ => rfl) (fun _ => rfl)) (fun _ => rfl)

theorem sc_stop {st st2 : St α} (h : sameCore st st2) : st2.stop = st.stop := by
  unfold sameCore at h; rw [h]

/-- the relaxations made are within a configured `relax_cap` -/
def CapOK (c : Cfg α) (st : St α) : Prop :=
  ∀ r, c.relaxCap = some r → (st.props : Int) ≤ imax r 0

theorem CapOK_final (c : Cfg α) (g : Graph α) (text : List Nat) : CapOK c (finalSt c g text) := by
  refine finalSt_induct (c := c) (P := CapOK c) (fun st st' h hs => ?_) rfl
    (fun r _ => imax_ge_right r 0) (fun _ _ _ h _ => h)
  cases hs with
  | relax e u w dec _ _ _ hcap =>
    -- a relaxation is only made when the pre-check `propagations >= relax_cap` failed
    intro r hr
    show ((st.props + 1 : Nat) : Int) ≤ imax r 0
    unfold capReached at hcap
    rw [hr] at hcap
    exact Int.le_trans (Int.not_le.1 (of_decide_eq_false hcap)) (imax_ge_left r 0)
  | _ => exact h

theorem popStep_pops_le (c : Cfg α) (g : Graph α) (st : St α) :
    (popStep c g st).pops ≤ st.pops + 1 := by
  unfold popStep
  split
  · omega
  · rename_i r _
    -- no atomic step after the `heappop` touches `pops`
    exact Nat.le_of_eq (afterPop_ind (c := c) (g := g) (seeds := []) (P := fun s => s.pops = st.pops + 1)
      (fun _ _ h hs => by cases hs <;> exact h) (st := popped st r.1 r.2) rfl rfl)

theorem loop_pops (c : Cfg α) (g : Graph α) (fuel : Nat) (st : St α) :
    (loop c g fuel st).pops ≤ st.pops + fuel := by
  induction fuel generalizing st with
  | zero => exact Nat.le_refl _
  | succ n ih =>
    have h1 := popStep_pops_le c g st
    have h2 := ih (popStep c g st)
    exact iteInduction (motive := fun s : St α => s.pops ≤ st.pops + (n + 1)) (fun _ => Nat.le_add_right _ _)
      fun _ => iteInduction (motive := fun s : St α => s.pops ≤ st.pops + (n + 1)) (fun _ => by omega)
        fun _ => by omega

theorem final_pops_le (c : Cfg α) (g : Graph α) (text : List Nat) :
    (finalSt c g text).pops ≤ (effQueue c).toNat := by
  have h0 : (seedAll c (seedsOf g text)).pops = 0 :=
    seedAll_induct (g := g) (P := fun s => s.pops = 0) (fun _ _ h hs => by cases hs <;> exact h) rfl
  have := loop_pops c g (effQueue c).toNat (seedAll c (seedsOf g text))
  rw [h0] at this
  simpa [finalSt] using this

/-- the queue is within an effective frontier cap -/
def FrontOK (c : Cfg α) (st : St α) : Prop :=
  ∀ cap, effFrontier c = some cap → (st.pq.length : Int) ≤ imax cap 0

/-- after a push under a frontier cap the queue is within it, whatever its length was -/
theorem pushCap_length (cap : Int) (pq : List (Item α)) (it : Item α) :
    ((pushCap (some cap) pq it).1.length : Int) ≤ imax cap 0 := by
  rw [imax_eq_max]
  unfold pushCap
  dsimp only
  by_cases hn : ((pq.length + 1 : Nat) : Int) > cap
  · rw [if_pos hn, ← Int.toNat_eq_max]
    exact Int.ofNat_le.2 (List.length_take_le _ _)
  · rw [if_neg hn]
    exact Int.le_trans (Int.not_lt.1 hn) (Int.le_max_left _ _)

theorem FrontOK_push {c : Cfg α} {st st' : St α} (it : Item α)
    (h : st'.pq = (pushCap (effFrontier c) st.pq it).1) : FrontOK c st' := by
  intro cap hc
  rw [h, hc]
  exact pushCap_length cap st.pq it

theorem FrontOK_final (c : Cfg α) (g : Graph α) (text : List Nat) : FrontOK c (finalSt c g text) := by
  refine finalSt_induct (c := c) (P := FrontOK c) (fun st st' h hs => ?_) rfl
    (fun cap _ => imax_ge_right cap 0) (fun st it rest h hp => ?_)
  · cases hs with
    | seed nid pq ring _ hpush =>
      rcases hpush with ⟨_, hpq, _⟩ | ⟨_, hpq, _⟩
      · exact fun cap hc => hpq ▸ h cap hc
      · exact FrontOK_push (st := st) _ hpq
    | push v x l r' => exact FrontOK_push (st := st) _ rfl
    | _ => exact h
  · -- a pop shortens the queue
    intro cap hc
    have := h cap hc
    have : rest.length + 1 = st.pq.length := (popMin_perm hp).length_eq
    show (rest.length : Int) ≤ _
    omega

/-- what one graph reports is within its effective caps: pops, layers, relaxations -/
theorem oneGraph_le (c : Cfg α) (g : Graph α) (text : List Nat) :
    ((oneGraph c g text).pops : Int) ≤ max (effQueue c) 0 ∧
    (oneGraph c g text).iters ≤ max (effLayers c) 0 ∧
    ∀ r, c.relaxCap = some r → ((oneGraph c g text).props : Int) ≤ imax r 0 := by
  unfold oneGraph
  dsimp only
  split
  · exact ⟨Int.le_max_right _ 0, Int.le_max_right _ 0, fun r _ => imax_ge_right r 0⟩
  · have hp := final_pops_le c g text
    have hi := imin_le_right ((finalSt c g text).layersProcessed : Int) (effLayers c)
    show ((finalSt c g text).pops : Int) ≤ _ ∧
      imin ((finalSt c g text).layersProcessed : Int) (effLayers c) ≤ _ ∧ CapOK c (finalSt c g text)
    exact ⟨Int.toNat_eq_max _ ▸ Int.ofNat_le.2 hp, Int.le_trans hi (Int.le_max_left _ _), CapOK_final c g text⟩

omit [Num α] in
/-- without a slice budget every graph runs under the configured caps -/
theorem leftCfg_no_slice (c : Cfg α) (t : Tot α) (hp : c.slicePops = none) (hi : c.sliceIters = none) :
    leftCfg c t = c := by
  cases c; cases hp; cases hi; rfl

theorem addGraph_nocache (c : Cfg α) (text : List Nat) (t : Tot α) (g : Graph α)
    (hc : c.cacheOn = false) (ht : t.err = false) :
    (addGraph c text t g).deltas = t.deltas ++ (oneGraph (leftCfg c t) g text).deltas.map (fun n => (g.gid, n)) ∧
    (addGraph c text t g).pops = t.pops + (oneGraph (leftCfg c t) g text).pops ∧
    (addGraph c text t g).props = t.props + (oneGraph (leftCfg c t) g text).props ∧
    (addGraph c text t g).err = (oneGraph (leftCfg c t) g text).err := by
  have hc' : (leftCfg c t).cacheOn = false := hc
  unfold addGraph
  simp [hc', ht]

end Clem.T1
