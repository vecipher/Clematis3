import Clem.Proofs.ParT2

/-! De-duplication by id (`dedupAux`) and `rankU` (sort, one entry per id, cut to k) as a streaming
fold; top-k-unique of a union from the per-shard top-k-unique lists (C09, re-added episode ids). -/
namespace Clem.ParT2
open Clem.Py

variable {α : Type}

def unseen (seen : List (List Nat)) (h : Hit α) : Bool := !seen.contains h.id

theorem dedupAux_cons (acc : List (List Nat)) (h : Hit α) (t : List (Hit α)) :
    dedupAux acc (h :: t) = if acc.contains h.id then dedupAux acc t else h :: dedupAux (h.id :: acc) t := rfl

theorem dedupAux_sublist (acc : List (List Nat)) (l : List (Hit α)) : (dedupAux acc l).Sublist l := by
  induction l generalizing acc with
  | nil => exact List.Sublist.refl _
  | cons h t ih =>
    rw [dedupAux_cons]
    split
    · exact (ih acc).cons _
    · exact (ih _).cons_cons _

theorem dedupAux_ids (acc : List (List Nat)) (l : List (Hit α)) :
    ((dedupAux acc l).map Hit.id).Nodup ∧ ∀ x ∈ dedupAux acc l, x.id ∉ acc := by
  induction l generalizing acc with
  | nil => exact ⟨List.nodup_nil, fun _ h => nomatch h⟩
  | cons h t ih =>
    rw [dedupAux_cons]
    by_cases hc : acc.contains h.id = true
    · rw [if_pos hc]; exact ih acc
    · obtain ⟨h1, h2⟩ := ih (h.id :: acc)
      rw [if_neg hc, List.map_cons, List.nodup_cons]
      refine ⟨⟨fun hm => ?_, h1⟩, fun x hx => ?_⟩
      · obtain ⟨x, hx, e⟩ := List.mem_map.mp hm
        exact h2 x hx (e ▸ List.mem_cons_self)
      · rcases List.mem_cons.mp hx with rfl | hx
        · exact fun hm => hc (List.contains_iff_mem.mpr hm)
        · exact fun hm => h2 x hx (List.mem_cons_of_mem _ hm)

/-- on a list with unique ids only the ids already seen are dropped. -/
theorem dedupAux_of_nodup (acc : List (List Nat)) (l : List (Hit α)) (hnd : (l.map Hit.id).Nodup) :
    dedupAux acc l = l.filter (unseen acc) := by
  induction l generalizing acc with
  | nil => rfl
  | cons h t ih =>
    rw [List.map_cons, List.nodup_cons] at hnd
    have ht : t.filter (unseen (h.id :: acc)) = t.filter (unseen acc) :=
      List.filter_congr fun x hx => by
        have : x.id ≠ h.id := fun e => hnd.1 (e ▸ List.mem_map_of_mem hx)
        simp [unseen, this]
    rw [dedupAux_cons, List.filter_cons, ih acc hnd.2, ih (h.id :: acc) hnd.2, ht]
    unfold unseen
    cases acc.contains h.id <;> rfl

/-- a list with unique ids none of which is in `acc` is left alone … -/
theorem dedupAux_of_disjoint (acc : List (List Nat)) (l : List (Hit α))
    (hnd : (l.map Hit.id).Nodup) (hd : ∀ x ∈ l, x.id ∉ acc) : dedupAux acc l = l := by
  rw [dedupAux_of_nodup acc l hnd]
  exact List.filter_eq_self.mpr fun x hx => by simp [unseen, hd x hx]

/-- … and with one more id `c` seen it loses exactly its entry with that id. -/
theorem dedupAux_cons_of_disjoint (c : List Nat) (acc : List (List Nat)) (l : List (Hit α))
    (hnd : (l.map Hit.id).Nodup) (hd : ∀ x ∈ l, x.id ∉ acc) :
    dedupAux (c :: acc) l = l.filter (unseen [c]) := by
  rw [dedupAux_of_nodup _ l hnd]
  exact List.filter_congr fun x hx => by simp [unseen, hd x hx]

theorem dedupAux_dedupAux (acc acc' : List (List Nat)) (l : List (Hit α)) (hsub : acc ⊆ acc') :
    dedupAux acc' (dedupAux acc l) = dedupAux acc' l := by
  induction l generalizing acc acc' with
  | nil => rfl
  | cons h t ih =>
    rw [dedupAux_cons acc, dedupAux_cons acc']
    by_cases hc : acc.contains h.id = true
    · rw [if_pos hc, if_pos (List.contains_iff_mem.mpr (hsub (List.contains_iff_mem.mp hc))), ih acc acc' hsub]
    · rw [if_neg hc, dedupAux_cons acc']
      by_cases hc' : acc'.contains h.id = true
      · rw [if_pos hc', if_pos hc']
        exact ih _ acc' (List.cons_subset.mpr ⟨List.contains_iff_mem.mp hc', hsub⟩)
      · rw [if_neg hc', if_neg hc', ih _ (h.id :: acc') (List.cons_subset_cons _ hsub)]

/-- filtering only the first `n` elements gives the same first `m` survivors, as long as the
prefix holds at most `n - m` elements that are filtered out. -/
theorem take_filter_take {X : Type} (p : X → Bool) (S : List X) (n m : Nat)
    (h : ((S.take n).filter (fun x => !p x)).length + m ≤ n) :
    ((S.take n).filter p).take m = (S.filter p).take m
    ∧ (m ≤ ((S.take n).filter p).length ↔ m ≤ (S.filter p).length) := by
  by_cases hl : S.length ≤ n
  · rw [List.take_of_length_le hl]; exact ⟨rfl, Iff.rfl⟩
  · have hsplit : S.filter p = (S.take n).filter p ++ (S.drop n).filter p := by
      rw [← List.filter_append, List.take_append_drop]
    have h2 := List.length_eq_length_filter_add (l := S.take n) p
    rw [List.length_take_of_le (Nat.le_of_not_le hl)] at h2
    have hge : m ≤ ((S.take n).filter p).length :=
      Nat.le_of_add_le_add_left (h.trans_eq (h2.trans (Nat.add_comm _ _)))
    rw [hsplit, List.take_append_of_le_length hge, List.length_append]
    exact ⟨rfl, iff_of_true hge (Nat.le_add_right_of_le hge)⟩

/-- the same for the dedupe filter on a list with unique ids: it drops at most `seen.length` entries. -/
theorem take_filter_unseen (S : List (Hit α)) (seen : List (List Nat)) (n m : Nat)
    (hnd : (S.map Hit.id).Nodup) (h : seen.length + m ≤ n) :
    ((S.take n).filter (unseen seen)).take m = (S.filter (unseen seen)).take m
    ∧ (m ≤ ((S.take n).filter (unseen seen)).length ↔ m ≤ (S.filter (unseen seen)).length) := by
  refine take_filter_take _ S n m (Nat.le_trans (Nat.add_le_add_right ?_ m) h)
  have h1 : (((S.take n).filter (fun x => !unseen seen x)).map Hit.id).Nodup :=
    hnd.sublist ((List.filter_sublist.trans (List.take_sublist n S)).map Hit.id)
  refine (List.length_map Hit.id).symm.trans_le (h1.length_le_of_subset fun a ha => ?_)
  obtain ⟨x, hx, rfl⟩ := List.mem_map.mp ha
  simpa [unseen] using (List.mem_filter.mp hx).2

/-- one step of the stream: when `a` is inserted into a sorted list, the first `k` unique entries of
the result are already determined by the first `k` unique entries of the list. -/
theorem take_dedupAux_orderedInsert (le : Hit α → Hit α → Bool)
    (trans : ∀ a b c, le a b = true → le b c = true → le a c = true) (a : Hit α) :
    ∀ (S : List (Hit α)) (k : Nat) (acc : List (List Nat)), S.Pairwise (fun x y => le x y = true) →
      (dedupAux acc (orderedInsert le a S)).take k
        = (dedupAux acc (orderedInsert le a ((dedupAux acc S).take k))).take k := by
  intro S
  induction S with
  | nil => intro k acc _; rw [dedupAux, List.take_nil]
  | cons b S ih =>
    intro k acc hp
    cases k with
    | zero => rw [List.take_zero, List.take_zero]
    | succ k =>
      rw [List.pairwise_cons] at hp
      cases hab : le a b with
      | true =>
        -- `a` goes in front of `b :: S`, hence of whatever is kept of it; it is kept or not, and if it
        -- is, at most the one entry with its id goes
        have hall : ∀ x ∈ b :: S, le a x = true :=
          List.forall_mem_cons.mpr ⟨hab, fun x hx => trans _ _ _ hab (hp.1 x hx)⟩
        obtain ⟨hN, hdN⟩ := dedupAux_ids acc (b :: S)
        have hNT := hN.sublist ((List.take_sublist (k + 1) _).map Hit.id)
        have hdT : ∀ x ∈ (dedupAux acc (b :: S)).take (k + 1), x.id ∉ acc :=
          fun x hx => hdN x (List.mem_of_mem_take hx)
        rw [orderedInsert_pos hab, dedupAux_cons acc a, orderedInsert_of_le_all le a _
          fun x hx => hall x ((dedupAux_sublist acc _).subset (List.mem_of_mem_take hx)), dedupAux_cons acc a]
        by_cases hc : acc.contains a.id = true
        · rw [if_pos hc, if_pos hc, dedupAux_of_disjoint acc _ hNT hdT, List.take_take, Nat.min_self]
        · rw [if_neg hc, if_neg hc, List.take_succ_cons, List.take_succ_cons,
            ← dedupAux_dedupAux acc (a.id :: acc) (b :: S) (List.subset_cons_self _ _),
            dedupAux_cons_of_disjoint a.id acc _ hN hdN, dedupAux_cons_of_disjoint a.id acc _ hNT hdT,
            (take_filter_unseen _ [a.id] (k + 1) k hN (by rw [List.length_singleton, Nat.add_comm])).1]
      | false =>
        rw [orderedInsert_neg hab, dedupAux_cons acc b, dedupAux_cons acc b S]
        by_cases hc : acc.contains b.id = true
        · rw [if_pos hc, if_pos hc]
          exact ih (k + 1) acc hp.2
        · rw [if_neg hc, if_neg hc, List.take_succ_cons, List.take_succ_cons, orderedInsert_neg hab,
            dedupAux_cons acc b, if_neg hc, List.take_succ_cons, ih k (b.id :: acc) hp.2]

section linear
variable (le : Hit α → Hit α → Bool)
  (total : ∀ a b, le a b = true ∨ le b a = true)
  (trans : ∀ a b c, le a b = true → le b c = true → le a c = true)
  (antisymm : ∀ a b, le a b = true → le b a = true → a = b)
include total trans

theorem rankU_cons (k : Nat) (a : Hit α) (l : List (Hit α)) :
    rankU le k (a :: l) = (dedupIds (orderedInsert le a (rankU le k l))).take k :=
  take_dedupAux_orderedInsert le trans a _ k [] (isort_pairwise le total trans l)

theorem rankU_idem (k : Nat) (l : List (Hit α)) : rankU le k (rankU le k l) = rankU le k l := by
  -- `rankU le k l` is sorted and has unique ids: sorting and de-duplicating leave it alone
  have hs : (rankU le k l).Pairwise (fun x y => le x y = true) :=
    ((isort_pairwise le total trans l).sublist (dedupAux_sublist [] _)).sublist (List.take_sublist _ _)
  have hn : ((rankU le k l).map Hit.id).Nodup :=
    (dedupAux_ids [] (isort le l)).1.sublist ((List.take_sublist _ _).map Hit.id)
  show (dedupAux [] (isort le (rankU le k l))).take k = _
  rw [isort_of_pairwise le hs, dedupAux_of_disjoint [] _ hn (by simp)]
  exact List.take_of_length_le (List.length_take_le k _)

include antisymm

theorem rankU_perm {l l' : List (Hit α)} (k : Nat) (hp : l.Perm l') : rankU le k l = rankU le k l' := by
  unfold rankU
  rw [isort_perm_invariant le total trans hp (fun a _ b _ => antisymm a b)]

/-- top-k-unique of the union from the per-shard top-k-unique lists (re-added ids allowed). -/
theorem rankU_flatten_map (k : Nat) (shards : List (List (Hit α))) :
    rankU le k (shards.map (rankU le k)).flatten = rankU le k shards.flatten :=
  flatten_map_absorb (rankU le k)
    (fun a _ _ h => by rw [rankU_cons le total trans, rankU_cons le total trans, h])
    (rankU_perm le total trans antisymm k) (rankU_idem le total trans k) shards

end linear

/-- with unique ids `_rank_by_cosine` is the plain top-k. -/
theorem rankU_of_nodup (le : Hit α → Hit α → Bool) (k : Nat) {l : List (Hit α)}
    (h : (l.map Hit.id).Nodup) : rankU le k l = topk le k l := by
  unfold rankU dedupIds topk
  rw [dedupAux_of_disjoint [] _ (((isort_perm le l).map Hit.id).nodup_iff.mpr h) (by simp)]

end Clem.ParT2
