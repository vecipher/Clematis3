import Clem.Proofs.T2

/-! Completeness lemmas for C11: nothing that qualifies is dropped while there is room (retrieval and
residual); a tier's answer has no repeats and is the best-`k` prefix of its pool. -/

namespace Clem.T2
open Clem.Py

set_option linter.unusedSectionVars false

section
variable {α : Type} [Num α]

theorem addHits_complete {k : Int} {hits acc : List (Ep α)}
    (hl : ((addHits k hits acc).length : Int) < k) :
    ∀ h ∈ hits, ∃ r ∈ addHits k hits acc, r.id = h.id := by
  rw [addHits_eq] at hl ⊢
  intro h hh
  obtain ⟨a, ha, hs⟩ := capLoop_complete hitStep_mono hl h hh
  by_cases hc : h.id ∈ a.map (·.id)
  · obtain ⟨r, hr, hid⟩ := List.mem_map.1 hc
    exact ⟨r, ha.subset hr, hid⟩
  · exact ⟨h, (hs _ (hitStep_eq_some.2 ⟨hc, rfl⟩)).subset (List.mem_append_right _ (List.mem_singleton_self h)),
      rfl⟩

theorem walk_complete {k : Int} {search : Nat → List (Ep α)} {ts : List Nat} {acc : List (Ep α)}
    {seq : List Nat} (hl : ((walk k search ts acc seq).1.length : Int) < k) :
    ∀ t ∈ ts, t ≤ 2 → ∀ h ∈ search t, ∃ r ∈ (walk k search ts acc seq).1, r.id = h.id := by
  rw [walk_eq] at hl ⊢
  intro t ht ht2 h hh
  obtain ⟨a, _, hs⟩ := capLoop_complete (tierStep_mono k search) hl t ht
  have hsub := hs _ (tierStep_eq_some.2 ⟨ht2, rfl⟩)
  obtain ⟨r, hr, hid⟩ := addHits_complete (Int.lt_of_le_of_lt (Int.ofNat_le.2 hsub.length_le) hl) h hh
  exact ⟨r, hsub.subset hr, hid⟩

theorem pySlice_eq_of_short {β : Type} {k : Int} {l : List β} (hk : 0 ≤ k)
    (h : ((pySlice k l).length : Int) < k) : pySlice k l = l := by
  rw [pySlice_of_nonneg hk] at h ⊢
  refine List.take_of_length_le (Nat.le_of_not_lt fun hlt => ?_)
  rw [List.length_take_of_le (Nat.le_of_lt hlt), Int.toNat_of_nonneg hk] at h
  exact Int.lt_irrefl _ h

theorem rankByCosine_complete {k : Int} {θ : α} {pool : List (Ep α)} {e : Ep α} (hk : 0 ≤ k)
    (hl : ((rankByCosine k θ pool).length : Int) < k) (he : e ∈ pool) (hp : passes θ e = true) :
    ∃ h ∈ rankByCosine k θ pool, h.id = e.id := by
  unfold rankByCosine at hl ⊢
  rw [pySlice_eq_of_short hk hl]
  obtain ⟨h, hh, hid, _⟩ := dedupIdsAux_cover (R := fun _ _ => True) [] _
    (List.pairwise_of_forall fun _ _ => trivial) e
    ((mem_isort _).2 (List.mem_filter.2 ⟨he, hp⟩)) List.not_mem_nil
  exact ⟨h, hh, hid⟩

theorem searchTier_complete {c : Cfg α} {t : Nat} {eps : List (Ep α)} {e : Ep α} (hk : 0 ≤ c.k)
    (hl : ((searchTier c t eps).length : Int) < c.k)
    (he : e ∈ eps) (hv : visible c.owner e = true) (hp : passes c.θ e = true)
    (hto : tierOk c eps e t = true) : ∃ h ∈ searchTier c t eps, h.id = e.id := by
  rw [searchTier_eq] at hl ⊢
  exact rankByCosine_complete hk hl (mem_tierPool.2 ⟨he, hv, hto⟩) hp

theorem firstSeen_nodup (cs acc : List Str) (h : acc.Nodup) : (firstSeen cs acc).Nodup := by
  induction cs generalizing acc with
  | nil => exact h
  | cons c cs ih =>
    rw [firstSeen]
    split
    · exact ih acc h
    · rename_i hc
      exact ih _ (h.append (List.nodup_singleton c)
        (List.disjoint_singleton.2 fun hm => hc (List.contains_iff_mem.2 hm)))

theorem chosenClusters_nodup (cs : List (Str × α)) (m : Int) (eps : List (Ep α)) :
    (chosenClusters cs m eps).Nodup := by
  unfold chosenClusters
  refine List.Nodup.sublist ((pySlice_prefix m _).sublist.map _)
    (((isort_perm clusterKeyLe _).map _).nodup_iff.2 ?_)
  rw [clusterScores, List.map_map]
  show (List.map id _).Nodup
  rw [List.map_id]
  exact (firstSeen_nodup _ [] List.nodup_nil).filter _

theorem clusterPool_nodup {chosen : List Str} {eps : List (Ep α)} (hc : chosen.Nodup)
    (he : eps.Nodup) : (clusterPool chosen eps).Nodup := by
  rw [clusterPool, List.nodup_flatMap]
  refine ⟨fun c _ => he.filter _, ((isort_perm lexLe chosen).nodup_iff.2 hc).imp fun hab x hx1 hx2 => ?_⟩
  exact hab ((beq_iff_eq.1 (List.mem_filter.1 hx1).2).symm.trans (beq_iff_eq.1 (List.mem_filter.1 hx2).2))

theorem rankByCosine_nodup {k : Int} {θ : α} {pool : List (Ep α)} (h : pool.Nodup) :
    (rankByCosine k θ pool).Nodup := by
  unfold rankByCosine
  exact ((((isort_perm rankLe _).nodup_iff).2 (h.filter _)).sublist (dedupIds_sublist _)).sublist
    (pySlice_prefix k _).sublist

theorem filterOwner_nodup {o : Option Str} {eps : List (Ep α)} (h : eps.Nodup) :
    (filterOwner o eps).Nodup := by
  unfold filterOwner
  cases o with
  | none => exact h
  | some a => exact h.filter _

theorem tierPool_nodup (c : Cfg α) (t : Nat) {eps : List (Ep α)} (h : eps.Nodup) :
    (tierPool c t eps).Nodup := by
  have ha := filterOwner_nodup (o := c.owner) h
  -- tiers 0 and 2 keep everything or filter
  have keep : ∀ (b : Prop) [Decidable b] (p : Ep α → Bool),
      (if b then filterOwner c.owner eps else (filterOwner c.owner eps).filter p).Nodup := fun b _ p => by
    split
    · exact ha
    · exact ha.filter p
  match t with
  | 0 => exact keep _ _
  | 1 => exact clusterPool_nodup (chosenClusters_nodup _ _ _) ha
  | 2 => exact keep _ _
  | (n + 3) => exact List.nodup_nil

theorem searchTier_nodup (c : Cfg α) (t : Nat) {eps : List (Ep α)} (h : eps.Nodup) :
    (searchTier c t eps).Nodup :=
  searchTier_eq c t eps ▸ rankByCosine_nodup (tierPool_nodup c t h)

theorem ids_nodup_of_subset {eps l : List (Ep α)} (hn : (eps.map (·.id)).Nodup) (hl : l.Nodup)
    (hs : ∀ e ∈ l, e ∈ eps) : (l.map (·.id)).Nodup :=
  List.Nodup.map_on (fun x hx y hy hxy => List.inj_on_of_nodup_map hn (hs x hx) (hs y hy) hxy) hl

theorem searchTier_ids_nodup (c : Cfg α) (t : Nat) (eps : List (Ep α)) :
    ((searchTier c t eps).map (·.id)).Nodup :=
  searchTier_eq c t eps ▸ rankByCosine_ids_nodup _ _ _

/-- COMPLETENESS of retrieval (`k ≥ 1`; episode ids MAY repeat): when fewer than `k` hits are
returned, every episode that is visible, has a vector, meets the threshold and the rule of a
configured tier is represented by a returned hit with its id. -/
theorem retrieveCore_complete (c : Cfg α) (tiers : List Nat) (eps : List (Ep α)) (hk : 1 ≤ c.k)
    (hl : ((retrieveCore c tiers eps).1.length : Int) < c.k) :
    ∀ e ∈ eps, qualifies c tiers eps e = true →
      ∃ r ∈ (retrieveCore c tiers eps).1.map (·.1), r.id = e.id := by
  intro e he hq
  have hperm := retrieveCore_perm c tiers eps
  have hlen : ((walk c.k (fun t => searchTier c t eps) tiers [] []).1.length : Int) < c.k := by
    rw [← hperm.length_eq, List.length_map]
    exact hl
  simp only [qualifies, Bool.and_eq_true, List.any_eq_true, decide_eq_true_eq] at hq
  obtain ⟨⟨hv, hp⟩, t, ht, ht2, hto⟩ := hq
  have hwc := walk_complete hlen t ht ht2
  -- the tier's answer (distinct ids by construction) is shorter than k
  have hsn := searchTier_ids_nodup c t eps
  have hsub : (searchTier c t eps).map (·.id) ⊆
      (walk c.k (fun t => searchTier c t eps) tiers [] []).1.map (·.id) := by
    intro i hi
    obtain ⟨x, hx, rfl⟩ := List.mem_map.1 hi
    obtain ⟨r, hr, hid⟩ := hwc x hx
    exact List.mem_map.2 ⟨r, hr, hid⟩
  have hle := (List.subperm_of_subset hsn hsub).length_le
  rw [List.length_map, List.length_map] at hle
  have hshort := Int.lt_of_le_of_lt (Int.ofNat_le.2 hle) hlen
  obtain ⟨h, hh, hid⟩ := searchTier_complete (Int.le_trans Int.one_nonneg hk) hshort he hv hp hto
  obtain ⟨r, hr, hid2⟩ := hwc h hh
  exact ⟨r, hperm.mem_iff.2 hr, hid2.trans hid⟩

end

theorem dictSet_keys {d : List (Str × Str)} {k v k' : Str} (h : k' ∈ d.map (·.1) ∨ k' = k) :
    k' ∈ (dictSet d k v).map (·.1) := by
  by_cases hk : k' = k
  · exact List.mem_map.2 ⟨(k, v), mem_dictSet.2 (.inr rfl), hk.symm⟩
  · obtain ⟨p, hp, rfl⟩ := List.mem_map.1 (h.resolve_right hk)
    exact List.mem_map.2 ⟨p, mem_dictSet.2 (.inl ⟨hp, hk⟩), rfl⟩

theorem foldl_nodeStep_keys (ns : List GNode) (d : List (Str × Str)) :
    (∀ k ∈ d.map (·.1), k ∈ (ns.foldl nodeStep d).map (·.1)) ∧
    ∀ n ∈ ns, n.label.isEmpty = false → lowerAscii n.label ∈ (ns.foldl nodeStep d).map (·.1) := by
  induction ns generalizing d with
  | nil => exact ⟨fun _ h => h, fun _ hn => nomatch hn⟩
  | cons m ms ih =>
    obtain ⟨i1, i2⟩ := ih (nodeStep d m)
    refine ⟨fun k h => i1 k ?_, fun n hn hl => ?_⟩
    · unfold nodeStep
      split
      · exact h
      · exact dictSet_keys (.inl h)
    · rcases List.mem_cons.1 hn with rfl | hn
      · refine i1 _ ?_
        rw [nodeStep, if_neg (Bool.eq_false_iff.1 hl)]
        exact dictSet_keys (.inr rfl)
      · exact i2 n hn hl

theorem labelMap_complete (graphs : List (List GNode)) :
    ∀ g ∈ graphs, ∀ n ∈ g, n.label.isEmpty = false → lowerAscii n.label ∈ (labelMap graphs).map (·.1) :=
  fun g hg n hn hl => labelMap_eq graphs ▸ (foldl_nodeStep_keys _ []).2 n (mem_nodes.2 ⟨g, hg, hn⟩) hl

theorem resInner_complete {cap : Int} {tLow : Str} {rest : List (Str × Str)} {ch : List Str}
    (hl : ((resInner cap tLow rest ch).length : Int) < cap) :
    ∀ p ∈ rest, p.1.isEmpty = false → isInfix p.1 tLow = true → p.2 ∈ resInner cap tLow rest ch := by
  rw [resInner_eq] at hl ⊢
  intro p hp h1 h2
  obtain ⟨a, ha, hs⟩ := capLoop_complete (nudgeStep_mono tLow) hl p hp
  by_cases hc : p.2 ∈ a
  · exact ha.subset hc
  · exact (hs _ (nudgeStep_eq_some.2 ⟨⟨⟨h1, h2⟩, hc⟩, rfl⟩)).subset
      (List.mem_append_right _ (List.mem_singleton_self _))

section
variable {α : Type} [Num α]

theorem resOuter_complete {cap : Int} {lm : List (Str × Str)} {es : List (Ep α)} {ch : List Str}
    (hl : ((resOuter cap lm es ch).length : Int) < cap) :
    ∀ e ∈ es, ∀ p ∈ lm, p.1.isEmpty = false → isInfix p.1 (lowerAscii e.text) = true →
      p.2 ∈ resOuter cap lm es ch := by
  rw [resOuter_eq] at hl ⊢
  intro e he p hp h1 h2
  obtain ⟨a, ha, hs⟩ := capLoop_complete (episodeStep_mono cap lm) hl e he
  have below : ∀ {b : List Str}, b.Sublist (capLoop cap (episodeStep cap lm) es ch) → (b.length : Int) < cap :=
    fun hb => Int.lt_of_le_of_lt (Int.ofNat_le.2 hb.length_le) hl
  have hsub := hs _ (episodeStep_eq_some.2 ⟨below ha, rfl⟩)
  exact hsub.subset (resInner_complete (below hsub) p hp h1 h2)

end

theorem dedup_of_nodup {l : List Str} (h : l.Nodup) : dedup l = l :=
  (dedup_spec l).1.eq_of_length_le (List.subperm_of_subset h (dedup_spec l).2.2).length_le

theorem lowerAscii_isEmpty (s : Str) : (lowerAscii s).isEmpty = s.isEmpty := by
  cases s <;> rfl

/-- COMPLETENESS of the residual: fewer than `max cap 0` nudges ⇒ every labelled node of an active
graph whose lower-cased label occurs in a used hit is represented by a nudge for a node with the
same lower-cased label. -/
theorem residual_complete {α : Type} [Num α] (cap : Int) (graphs : List (List GNode))
    (used : List (Ep α)) (hl : ((residual cap graphs used).length : Int) < max cap 0) :
    ∀ g ∈ graphs, ∀ n ∈ g, n.label.isEmpty = false →
      (∃ e ∈ used, isInfix (lowerAscii n.label) (lowerAscii e.text) = true) →
      ∃ nid ∈ residual cap graphs used, ∃ g' ∈ graphs, ∃ n' ∈ g',
        n'.id = nid ∧ lowerAscii n'.label = lowerAscii n.label := by
  intro g hg n hn hlab ⟨e, he, hin⟩
  have hnd : (resOuter cap (labelMap graphs) used []).Nodup := resOuter_nodup List.nodup_nil
  unfold residual at hl ⊢
  rw [length_isort, dedup_of_nodup hnd] at hl
  have hlt := (lt_sup_iff.1 hl).resolve_right (Int.not_lt.2 (Int.natCast_nonneg _))
  obtain ⟨p, hp, hk⟩ := List.mem_map.1 (labelMap_complete graphs g hg n hn hlab)
  have hne : p.1.isEmpty = false := by rw [hk, lowerAscii_isEmpty]; exact hlab
  have hmem := resOuter_complete hlt e he p hp hne (by rw [hk]; exact hin)
  obtain ⟨g', hg', n', hn', h1, _, h3⟩ := labelMap_sound graphs p hp
  refine ⟨p.2, ?_, g', hg', n', hn', h1, ?_⟩
  · rw [mem_isort, mem_dedup]; exact hmem
  · rw [← h3, hk]

section
variable {α : Type} [Num α] [LinearOrder α] [NumOrd α]

/-- `rank k θ pool` is the best-`k` prefix of the distinct ids: a passing pool member is represented
by a returned copy of its id that sorts no later, or `k` entries sorting no later were returned. -/
theorem rankByCosine_topk {k : Int} {θ : α} {pool : List (Ep α)} {e : Ep α} (hk : 0 ≤ k)
    (he : e ∈ pool) (hp : passes θ e = true) :
    (∃ h ∈ rankByCosine k θ pool, h.id = e.id ∧ keyLe (rankKey h) (rankKey e) = true)
      ∨ (((rankByCosine k θ pool).length : Int) = k
        ∧ ∀ h ∈ rankByCosine k θ pool, keyLe (rankKey h) (rankKey e) = true) := by
  unfold rankByCosine
  rw [pySlice_of_nonneg hk]
  have hpw : (isort rankLe (pool.filter (passes θ))).Pairwise
      (fun a b => keyLe (rankKey a) (rankKey b) = true) := isort_key_pairwise rankKey _
  obtain ⟨h, hh, hid, hle⟩ := dedupIdsAux_cover [] _ hpw e
    ((mem_isort _).2 (List.mem_filter.2 ⟨he, hp⟩)) List.not_mem_nil
  change h ∈ dedupIds (isort rankLe (pool.filter (passes θ))) at hh
  have hle' : keyLe (rankKey h) (rankKey e) = true := hle.elim (fun e' => e' ▸ keyLe_refl _) id
  have hdpw := hpw.sublist (dedupIds_sublist _)
  -- the distinct ids in rank order, cut at `k`; `h` lies before or after the cut
  generalize dedupIds (isort rankLe (pool.filter (passes θ))) = D at hh hdpw ⊢
  rw [← List.take_append_drop k.toNat D] at hh hdpw
  rcases List.mem_append.1 hh with h1 | h1
  · exact .inl ⟨h, h1, hid, hle'⟩
  · refine .inr ⟨?_, fun x hx => keyLe_trans _ _ _ ((List.pairwise_append.1 hdpw).2.2 x hx h h1) hle'⟩
    have : k.toNat < D.length := by
      by_contra hc
      rw [List.drop_of_length_le (Nat.not_lt.1 hc)] at h1
      cases h1
    rw [List.length_take, Nat.min_eq_left (Nat.le_of_lt this), Int.toNat_of_nonneg hk]

theorem searchTier_topk {c : Cfg α} {t : Nat} {eps : List (Ep α)} {e : Ep α} (hk : 0 ≤ c.k)
    (he : e ∈ eps) (hv : visible c.owner e = true) (hp : passes c.θ e = true)
    (hto : tierOk c eps e t = true) :
    (∃ h ∈ searchTier c t eps, h.id = e.id ∧ keyLe (rankKey h) (rankKey e) = true)
      ∨ (((searchTier c t eps).length : Int) = c.k
        ∧ ∀ h ∈ searchTier c t eps, keyLe (rankKey h) (rankKey e) = true) := by
  rw [searchTier_eq]
  exact rankByCosine_topk hk (mem_tierPool.2 ⟨he, hv, hto⟩) hp

end

end Clem.T2
