/-
Lemmas for the sanitiser model (`Clem/Model/Sanitize.lean`): what each stage of the validator, the validator and
`parse_and_validate` return (a rejection, never a raise, or an accepted object within the documented limits), and that
fence-stripping never lengthens the text.
-/
import Clem.Model.Sanitize

namespace Clem.Sanitize
open Clem.Gen.T3Consts
open Clem.T3 (Str strip)

theorem hasKey_eq_isSome (k : Str) : ∀ kvs : List (Str × J), hasKey k kvs = (kvs.lookup k).isSome
  | [] => rfl
  | (k', v) :: t => by
    rw [List.lookup_cons, hasKey, List.any_cons]
    by_cases hk : k = k'
    · rw [hk, beq_iff_eq.mpr rfl]; rfl
    · rw [beq_false_of_ne hk, beq_false_of_ne (Ne.symm hk)]; exact hasKey_eq_isSome k t

theorem required_present {kvs : List (Str × J)} :
    requiredKeys.find? (fun k => !hasKey k kvs) = none ↔
      (∃ plan, kvs.lookup kPlan = some plan) ∧ ∃ rat, kvs.lookup kRationale = some rat := by
  show [kPlan, kRationale].find? _ = none ↔ _
  rw [List.find?_cons, List.find?_cons, List.find?_nil, hasKey_eq_isSome, hasKey_eq_isSome,
    ← Option.isSome_iff_exists, ← Option.isSome_iff_exists]
  cases (kvs.lookup kPlan).isSome <;> cases (kvs.lookup kRationale).isSome <;> decide

open Clem.T3 (lstrip rstrip isSpace) in
theorem strip_length_le (s : Str) : (strip s).length ≤ s.length := by
  unfold strip rstrip lstrip
  rw [List.length_reverse]
  exact Nat.le_trans (List.dropWhile_sublist isSpace).length_le
    (Nat.le_trans (Nat.le_of_eq List.length_reverse) (List.dropWhile_sublist isSpace).length_le)

theorem itemBad_eq_false {x : J} :
    itemBad x = false ↔ ∃ s, x = .str s ∧ 0 < (strip s).length ∧ s.length ≤ PLAN_ITEM_MAX_LEN := by
  refine ⟨fun h => ?_, fun ⟨s, e, h0, h1⟩ => ?_⟩
  · cases x with
    | str s =>
      rw [itemBad, Bool.or_eq_false_iff, Bool.or_eq_false_iff, beq_eq_false_iff_ne, beq_eq_false_iff_ne,
        decide_eq_false_iff_not] at h
      exact ⟨s, rfl, Nat.pos_of_ne_zero h.1.2, Nat.le_of_not_gt h.2⟩
    | _ => cases h
  · rw [e, itemBad, Bool.or_eq_false_iff, Bool.or_eq_false_iff, beq_eq_false_iff_ne, beq_eq_false_iff_ne,
      decide_eq_false_iff_not]
    exact ⟨⟨Nat.ne_of_gt (Nat.lt_of_lt_of_le h0 (strip_length_le s)), Nat.ne_of_gt h0⟩, Nat.not_lt.2 h1⟩

theorem itemWithin_not_bad {x : J} (h : itemWithin x = true) : itemBad x = false := by
  cases x with
  | str s =>
    simp only [itemWithin, Bool.and_eq_true, decide_eq_true_eq] at h
    exact itemBad_eq_false.2 ⟨s, rfl, h⟩
  | _ => cases h

/-- what the statement calls "within the documented limits", as a proposition about the parsed value -/
def WithinLimits (j : J) (a : Accepted) : Prop :=
  ∃ kvs items r, j = .obj kvs ∧ (∀ kv ∈ kvs, kv.1 ∈ allowedKeys) ∧
    kvs.lookup kPlan = some (.arr items) ∧ items.length ≤ PLAN_MAX_ITEMS ∧
    (∀ x ∈ items, ∃ s, x = .str s ∧ 0 < (strip s).length ∧ s.length ≤ PLAN_ITEM_MAX_LEN) ∧
    kvs.lookup kRationale = some (.str r) ∧ 0 < r.length ∧ r.length ≤ RATIONALE_MAX_LEN ∧
    (kvs.lookup kReflection = none ∧ a.reflection = false ∨
      ∃ v, kvs.lookup kReflection = some v ∧ coerceBool v = some a.reflection) ∧
    a.plan = items.map strOf ∧ a.rationale = r

/-! Each stage of the validator either rejects — never with the reason of the second size guard, which belongs to
`parse_and_validate` — or hands over to the next stage, the last one accepting. -/

theorem checkReflection_cases (items : List J) (r : Str) (refl : Option J) :
    (∃ q, q ≠ .blockTooLarge ∧ checkReflection items r refl = .rejected q) ∨
    ∃ a, checkReflection items r refl = .ok a ∧
      (refl = none ∧ a.reflection = false ∨ ∃ v, refl = some v ∧ coerceBool v = some a.reflection) ∧
      a.plan = items.map strOf ∧ a.rationale = r := by
  cases refl with
  | none => exact Or.inr ⟨_, rfl, Or.inl ⟨rfl, rfl⟩, rfl, rfl⟩
  | some v =>
    simp only [checkReflection]
    cases hb : coerceBool v with
    | none => exact Or.inl ⟨.reflection, nofun, rfl⟩
    | some bv => exact Or.inr ⟨_, rfl, Or.inr ⟨v, rfl, hb⟩, rfl, rfl⟩

theorem checkRationale_cases (items : List J) (refl : Option J) (rat : J) :
    (∃ q, q ≠ .blockTooLarge ∧ checkRationale items refl rat = .rejected q) ∨
    ∃ r, rat = .str r ∧ 0 < r.length ∧ r.length ≤ RATIONALE_MAX_LEN ∧
      checkRationale items refl rat = checkReflection items r refl := by
  cases rat with
  | str r =>
    simp only [checkRationale]
    by_cases hc : (r.length == 0 || decide (r.length > RATIONALE_MAX_LEN)) = true
    · rw [if_pos hc]; exact Or.inl ⟨.rationale, nofun, rfl⟩
    · rw [if_neg hc]
      have hc := Bool.or_eq_false_iff.1 (Bool.eq_false_iff.2 hc)
      exact Or.inr ⟨r, rfl, Nat.pos_of_ne_zero (beq_eq_false_iff_ne.1 hc.1),
        Nat.le_of_not_gt (of_decide_eq_false hc.2), rfl⟩
  | _ => exact Or.inl ⟨.rationale, nofun, rfl⟩

theorem checkPlan_cases (rat : J) (refl : Option J) (plan : J) :
    (∃ q, q ≠ .blockTooLarge ∧ checkPlan rat refl plan = .rejected q) ∨
    ∃ items, plan = .arr items ∧ items.length ≤ PLAN_MAX_ITEMS ∧ items.any itemBad = false ∧
      checkPlan rat refl plan = checkRationale items refl rat := by
  cases plan with
  | arr items =>
    simp only [checkPlan]
    by_cases hlen : items.length > PLAN_MAX_ITEMS
    · rw [if_pos hlen]; exact Or.inl ⟨.planTooLong, nofun, rfl⟩
    · rw [if_neg hlen]
      cases hbad : items.any itemBad
      · exact Or.inr ⟨items, rfl, Nat.le_of_not_gt hlen, hbad, rfl⟩
      · exact Or.inl ⟨.planItem, nofun, rfl⟩
  | _ => exact Or.inl ⟨.planNotArray, nofun, rfl⟩

/-- **What the validator returns**: a rejection, or an accepted object that is within the documented limits.  It
never raises: once both required keys are known to be present, `obj["plan"]` and `obj["rationale"]` cannot be a
`KeyError`. -/
theorem validate_cases (j : J) :
    (∃ q, q ≠ .blockTooLarge ∧ validate j = .rejected q) ∨ ∃ a, validate j = .ok a ∧ WithinLimits j a := by
  cases j with
  | obj kvs =>
    simp only [validate, validateObj]
    split
    · exact Or.inl ⟨.missingKey _, nofun, rfl⟩
    · rename_i hreq
      split
      · exact Or.inl ⟨.unknownKey _, nofun, rfl⟩
      · rename_i hall
        obtain ⟨⟨plan, hp⟩, rat, hr⟩ := required_present.1 hreq
        rw [hp, hr]
        simp only
        rcases checkPlan_cases rat (kvs.lookup kReflection) plan with h | ⟨items, rfl, hlen, hbad, e⟩
        · exact Or.inl h
        · rw [e]
          rcases checkRationale_cases items (kvs.lookup kReflection) rat with h | ⟨r, rfl, hr0, hr1, e⟩
          · exact Or.inl h
          · rw [e]
            rcases checkReflection_cases items r (kvs.lookup kReflection) with h | ⟨a, e, hrefl, hpl, hra⟩
            · exact Or.inl h
            · refine Or.inr ⟨a, e, kvs, items, r, rfl, fun kv hkv => ?_, hp, hlen,
                fun x hx => itemBad_eq_false.1 ?_, hr, hr0, hr1, hrefl, hpl, hra⟩
              · simpa using List.find?_eq_none.1 hall kv hkv
              · simpa using List.any_eq_false.1 hbad x hx
  | _ => exact Or.inl ⟨.notObject, nofun, rfl⟩

theorem stripFences_length_le (t : Str) : (stripFences t).1.length ≤ t.length := by
  have hs := strip_length_le t
  unfold stripFences
  simp only
  split
  · split
    · exact hs
    · rename_i i _
      simp only
      split
      · exact hs
      · -- the body is a stripped slice of the stripped text
        refine Nat.le_trans (strip_length_le _) (Nat.le_trans ?_ hs)
        rw [List.length_drop, List.length_take]
        exact Nat.le_trans (Nat.sub_le _ _) (Nat.min_le_right _ _)
  · exact hs

/-- **What `parse_and_validate` returns**: a rejection — never "json block too large", since the candidate is at
most as long as the raw text that passed the first size guard — or what the validator accepted of the value
`json.loads` made of the whole fence-stripped candidate. -/
theorem parseAndValidate_cases (parse : Str → Option J) (text : Option Str) :
    (∃ q, q ≠ .blockTooLarge ∧ parseAndValidate parse text = .rejected q) ∨
    ∃ t j a, text = some t ∧ t.length ≤ MAX_RAW_LEN ∧ langOk (stripFences t).2 = true ∧
      parse (stripFences t).1 = some j ∧ validate j = .ok a ∧ WithinLimits j a ∧
      parseAndValidate parse text = .ok a := by
  cases text with
  | none => exact Or.inl ⟨.nonString, nofun, rfl⟩
  | some t =>
    unfold parseAndValidate
    simp only
    by_cases hlen : t.length > MAX_RAW_LEN
    · rw [if_pos hlen]; exact Or.inl ⟨.rawTooLarge, nofun, rfl⟩
    · rw [if_neg hlen]
      cases hlang : langOk (stripFences t).2
      · exact Or.inl ⟨.badFence, nofun, rfl⟩
      · rw [if_neg (fun h => hlen (Nat.lt_of_lt_of_le h (stripFences_length_le t)))]
        cases hj : parse (stripFences t).1 with
        | none =>
          -- `onParseError` is a rejection only because the generated flag `jsonLoadsGuarded` is `true` (the
          -- `json.loads` call sits in `try … except Exception`); with `false` it would be `.raised`
          exact Or.inl ⟨.nonJson, nofun, rfl⟩
        | some j =>
          rcases validate_cases j with h | ⟨a, e, hw⟩
          · exact Or.inl h
          · exact Or.inr ⟨t, j, a, rfl, Nat.le_of_not_gt hlen, hlang, hj, e, hw, e⟩

end Clem.Sanitize
