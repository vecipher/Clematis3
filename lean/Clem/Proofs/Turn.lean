/-
Helper lemmas for C20 (fail-soft reasoning) about the `Turn` skeleton and the layers of `apply_quality`.
Core Lean only.
-/
import Clem.Model.Turn
import Clem.Model.Quality

namespace Clem.Turn

variable {α : Type}

theorem tryD_idleE {S g : Site → Bool} (hS : ∀ s, S s = true → g s = true) (s : Site) (d : α)
    (r : Except Exc α) : tryD g s d (idleE S s d r) = tryD g s d r := by
  cases r with
  | ok a => rfl
  | error x =>
    unfold idleE tryD
    cases hs : S s with
    | false => simp
    | true => simp [hS s hs]

theorem tryD_ok_of {g : Site → Bool} {s : Site} (d : α) {r : Except Exc α}
    (h : ∀ x, r = .error x → g s = true) : ∃ a, tryD g s d r = .ok a := by
  cases r with
  | ok a => exact ⟨a, rfl⟩
  | error x => exact ⟨d, by simp [tryD, h x rfl]⟩

theorem applyEach_ok {g : Site → Bool} {one : Nat → Except Exc (Int × Int)}
    (h : ∀ d x, one d = .error x → g .storeOne = true) (ds : List Nat) :
    ∃ r, applyEach g one ds = .ok r := by
  induction ds with
  | nil => exact ⟨_, rfl⟩
  | cons d ds ih =>
    obtain ⟨⟨a, cl⟩, h1⟩ := tryD_ok_of ((0 : Int), (0 : Int)) (h d)
    obtain ⟨⟨a', cl', cs⟩, h2⟩ := ih
    exact ⟨(a + a', cl + cl', Site.storeOne :: cs), by simp only [applyEach, h1, h2]⟩

/-! ### the idle run is the same run

`(idle S e).f` unfolds to `idleE S s d e.f` at the ten sites `idle` touches and to `e.f` at the others, and the
skeleton reads each of the ten through `tryD g s d` with the same `d`: `erw [tryD_idleE]` rewrites those calls and
`rfl` checks the rest.  The statements are equalities of functions so that they rewrite under binders. -/

theorem yieldCheck_idle (S : Site → Bool) (c : Cfg) (e : Env) (p : YPoint) (k : Core) (l : Line)
    (logs : List Rec) (calls : List Site) :
    yieldCheck c (idle S e) p k l logs calls = yieldCheck c e p k l logs calls := rfl

section idle
variable {S g : Site → Bool} (hS : ∀ s, S s = true → g s = true) (c : Cfg) (e : Env)
include hS

theorem applyEach_idle (one : Nat → Except Exc (Int × Int)) :
    applyEach g (fun d => idleE S .storeOne (0, 0) (one d)) = applyEach g one := by
  funext ds
  induction ds with
  | nil => rfl
  | cons d ds ih => simp only [applyEach, tryD_idleE hS, ih]

theorem applyFinish_idle : applyFinish g c (idle S e) = applyFinish g c e := by
  unfold applyFinish snapPart
  erw [tryD_idleE hS .sidecarWrite, tryD_idleE hS .snapshotBody]
  rfl

theorem phT3_idle : phT3 g c (idle S e) = phT3 g c e := by
  unfold phT3 speakPart
  erw [tryD_idleE hS .t3Trace, tryD_idleE hS .adapterBuild]
  rfl

theorem phApply_idle : phApply g c (idle S e) = phApply g c e := by
  unfold phApply applyAfterStore
  rw [applyFinish_idle hS]
  erw [applyEach_idle hS]
  rfl

theorem phReflect_idle : phReflect g c (idle S e) = phReflect g c e := by
  unfold phReflect reflPart
  erw [tryD_idleE hS .reflectCompute, tryD_idleE hS .reflectWrite, tryD_idleE hS .reflectLog]
  rfl

/-- `phBoot` and `phFinish` read one changed field each; the other seven phases read none. -/
theorem phases_idle : phases g c (idle S e) = phases g c e := by
  unfold phases phBoot phFinish
  erw [tryD_idleE hS .bootLoad, tryD_idleE hS .health]
  rw [phT3_idle hS, phApply_idle hS, phReflect_idle hS]
  rfl

end idle

/-- every failure the script contains happens at a site that `g` protects; in particular the seven stage calls
(`t1`, `t2`, `deliberate`, `rag`, `speak`, `dialogue`, `t4`), which are never protected, do not fail at all -/
structure FailsOnlyAt (g : Site → Bool) (e : Env) : Prop where
  bootLoad : ∀ x, e.bootLoad = .error x → g .bootLoad = true
  t1 : ∀ st x, e.t1 st ≠ .error x
  t2 : ∀ st x, e.t2 st ≠ .error x
  gelObserve : ∀ x, e.gelObserve = .error x → g .gelObserve = true
  deliberate : ∀ st x, e.deliberate st ≠ .error x
  rag : ∀ st p x, e.rag st p ≠ .error x
  t3Trace : ∀ x, e.t3Trace = .error x → g .t3Trace = true
  adapterBuild : ∀ x, e.adapterBuild = .error x → g .adapterBuild = true
  speak : ∀ b p x, e.speak b p ≠ .error x
  dialogue : ∀ p x, e.dialogue p ≠ .error x
  t4 : ∀ st p u x, e.t4 st p u ≠ .error x
  gelTick : ∀ x, e.gelTick = .error x → g .gelTick = true
  mergeCand : ∀ x, e.mergeCand = .error x → g .gelMergeCand = true
  applyMerge : ∀ i x, e.applyMerge i = .error x → g .gelApplyMerge = true
  splitCand : ∀ x, e.splitCand = .error x → g .gelSplitCand = true
  applySplit : ∀ i x, e.applySplit i = .error x → g .gelApplySplit = true
  promote : ∀ x, e.promote = .error x → g .gelPromote = true
  applyPromo : ∀ i x, e.applyPromo i = .error x → g .gelApplyPromo = true
  storeBatch : ∀ ds x, e.storeBatch ds = .error x → g .storeBatch = true
  storeOne : ∀ d x, e.storeOne d = .error x → g .storeOne = true
  invalidate : ∀ i x, e.invalidate i = .error x → g .cacheInvalidate = true
  snapBody : ∀ x, e.snapBody = .error x → g .snapshotBody = true
  sidecar : ∀ x, e.sidecar = .error x → g .sidecarWrite = true
  reflectRun : ∀ x, e.reflectRun = some x → g .reflectRun = true
  reflect : ∀ x, e.reflect = .error x → g .reflectCompute = true
  reflectWrite : ∀ x, e.reflectWrite = .error x → g .reflectWrite = true
  reflectLog : ∀ x, e.reflectLog = .error x → g .reflectLog = true
  health : ∀ x, e.health = .error x → g .health = true

theorem ok_of_ne {r : Except Exc α} (h : ∀ x, r ≠ .error x) : ∃ a, r = .ok a := by
  cases r with
  | ok a => exact ⟨a, rfl⟩
  | error x => exact absurd rfl (h x)

theorem yieldCheck_ok (c : Cfg) (e : Env) (p : YPoint) (k : Core) (l : Line) (logs : List Rec)
    (calls : List Site) : ∃ em, yieldCheck c e p k l logs calls = .ok em := by
  unfold yieldCheck
  cases c.schedEnabled with
  | false => exact ⟨_, rfl⟩
  | true => cases e.yieldAt p k.t1 k.t2 k.plan <;> exact ⟨_, rfl⟩

theorem chain_ok (fs : List Phase) (h : ∀ f ∈ fs, ∀ k, ∃ em, f k = .ok em) (k : Core) :
    ∃ em, chain fs k = .ok em := by
  induction fs generalizing k with
  | nil => exact ⟨_, rfl⟩
  | cons f fs ih =>
    obtain ⟨e1, h1⟩ := h f (List.mem_cons_self) k
    simp only [chain, h1]
    cases hd : e1.done with
    | some l => exact ⟨_, rfl⟩
    | none =>
      obtain ⟨e2, h2⟩ := ih (fun f' hf' => h f' (List.mem_cons_of_mem _ hf')) e1.core
      simp only [h2]
      exact ⟨_, rfl⟩

section ok
variable {g : Site → Bool} {e : Env}

theorem phBoot_ok (h : FailsOnlyAt g e) (k : Core) : ∃ em, phBoot g e k = .ok em := by
  obtain ⟨a, ha⟩ := tryD_ok_of (none : Option Ver) h.bootLoad
  unfold phBoot
  rw [ha]
  cases k.st.bootLoaded <;> exact ⟨_, rfl⟩

theorem phCacheInit_ok (c : Cfg) (k : Core) : ∃ em, phCacheInit c k = .ok em := by
  unfold phCacheInit
  cases (c.cacheEnabled && k.st.cache.isNone) <;> exact ⟨_, rfl⟩

theorem phT1_ok (h : FailsOnlyAt g e) (c : Cfg) (k : Core) : ∃ em, phT1 c e k = .ok em := by
  obtain ⟨o, ho⟩ := ok_of_ne (h.t1 k.st)
  simp only [phT1, ho]
  exact yieldCheck_ok ..

theorem phT2_ok (h : FailsOnlyAt g e) (c : Cfg) (k : Core) : ∃ em, phT2 c e k = .ok em := by
  obtain ⟨o, ho⟩ := ok_of_ne (h.t2 k.st)
  unfold phT2
  rw [ho]
  dsimp only
  cases k.st.cache with
  | none => exact yieldCheck_ok ..
  | some l =>
    dsimp only
    cases cacheLookup l (k.st.ver.key, c.textId) <;> exact yieldCheck_ok ..

/-- `phGelObserve` and `phGelTick`: a gated call that contributes a record when it returns and nothing when it
fails at a protected site -/
theorem gelCall_ok {s : Site} {r : Except Exc Nat} (hr : ∀ x, r = .error x → g s = true) (b : Bool) (k : Core)
    (f : Nat → Rec) :
    ∃ em, (if b then
        match r with
        | .ok m => cont k [f m] [s]
        | .error x => if g s then cont k [] [s] else .error x
      else cont k [] []) = .ok em := by
  cases b with
  | false => exact ⟨_, rfl⟩
  | true =>
    cases hr' : r with
    | ok m => exact ⟨_, rfl⟩
    | error x => exact ⟨_, if_pos (hr x hr')⟩

theorem phGelObserve_ok (h : FailsOnlyAt g e) (c : Cfg) (k : Core) : ∃ em, phGelObserve g c e k = .ok em :=
  gelCall_ok h.gelObserve ..

theorem phGelTick_ok (h : FailsOnlyAt g e) (c : Cfg) (k : Core) : ∃ em, phGelTick g c e k = .ok em :=
  gelCall_ok h.gelTick ..

theorem speakPart_ok (h : FailsOnlyAt g e) (c : Cfg) (st : St) (p : Plan) :
    ∃ r, speakPart g c e st p = .ok r := by
  obtain ⟨u1, h1⟩ := ok_of_ne (h.dialogue p)
  obtain ⟨u2, h2⟩ := ok_of_ne (h.speak true p)
  obtain ⟨u3, h3⟩ := ok_of_ne (h.speak false p)
  obtain ⟨a, ha⟩ := tryD_ok_of false h.adapterBuild
  unfold speakPart
  rw [h1, h2, h3, ha]
  cases c.dialoguePatched with
  | true => exact ⟨_, rfl⟩
  | false =>
    cases c.backendLlm with
    | false => exact ⟨_, rfl⟩
    | true =>
      cases st.adapter with
      | true => exact ⟨_, rfl⟩
      | false => cases a <;> exact ⟨_, rfl⟩

theorem phT3_ok (h : FailsOnlyAt g e) (c : Cfg) (k : Core) : ∃ em, phT3 g c e k = .ok em := by
  obtain ⟨p0, hp0⟩ := ok_of_ne (h.deliberate k.st)
  obtain ⟨y, hy⟩ := yieldCheck_ok c e .T3 { k with plan := p0 } .empty [] [.deliberate]
  obtain ⟨p1, hp1⟩ : ∃ p1, (if (p0.wantsRetrieve && c.ragAllowed) = true then e.rag k.st p0 else .ok p0) = .ok p1 := by
    cases (p0.wantsRetrieve && c.ragAllowed) with
    | false => exact ⟨_, rfl⟩
    | true => exact ok_of_ne (h.rag k.st p0)
  obtain ⟨a, ha⟩ := tryD_ok_of () h.t3Trace
  obtain ⟨⟨u, llm, fb, ad, cs⟩, hs⟩ := speakPart_ok h c k.st p1
  simp only [phT3, hp0, hy, hp1, ha, hs]
  cases (c.t3Enabled && !c.dryRun) with
  | false => exact ⟨_, rfl⟩
  | true => cases y.done <;> exact ⟨_, rfl⟩

theorem phT4_ok (h : FailsOnlyAt g e) (c : Cfg) (k : Core) : ∃ em, phT4 c e k = .ok em := by
  obtain ⟨o, ho⟩ := ok_of_ne (h.t4 k.st k.plan k.utter)
  unfold phT4
  rw [ho]
  cases c.t4Enabled with
  | false => exact ⟨_, rfl⟩
  | true =>
    cases c.dryRun with
    | true => exact ⟨_, rfl⟩
    | false => exact yieldCheck_ok ..

theorem applyFinish_ok (h : FailsOnlyAt g e) (c : Cfg) (k : Core) (a cl : Int) (inv : Nat) (st : St)
    (cs : List Site) : ∃ em, applyFinish g c e k a cl inv st cs = .ok em := by
  obtain ⟨u, hu⟩ := tryD_ok_of () h.snapBody
  obtain ⟨v, hv⟩ := tryD_ok_of () h.sidecar
  unfold applyFinish snapPart
  rw [hu, hv]
  cases c.snapshotDue <;> exact yieldCheck_ok ..

theorem invalidateLoop_fail (inv : Nat → Except Exc Unit) (size n i acc : Nat) (cs : List Site) (x : Exc)
    (hl : (invalidateLoop inv size n i acc cs).2.2 = some x) : ∃ j, inv j = .error x := by
  induction n generalizing i acc cs with
  | zero => cases hl
  | succ n ih =>
    unfold invalidateLoop at hl
    cases hf : inv i with
    | ok u => rw [hf] at hl; exact ih _ _ _ hl
    | error y => rw [hf] at hl; exact ⟨i, hf.trans (congrArg _ (Option.some.inj hl))⟩

theorem applyAfterStore_ok (h : FailsOnlyAt g e) (c : Cfg) (k : Core) (a cl : Int) (cs : List Site) :
    ∃ em, applyAfterStore g c e k a cl cs = .ok em := by
  unfold applyAfterStore
  cases (c.bustOnApply && k.st.cache.isSome) with
  | false => exact applyFinish_ok h ..
  | true =>
    rw [if_pos rfl]
    split
    · exact applyFinish_ok h ..
    · rename_i inv cs' x hl
      obtain ⟨j, hj⟩ := invalidateLoop_fail e.invalidate _ _ _ _ _ x (congrArg (·.2.2) hl)
      rw [if_pos (h.invalidate j x hj)]
      exact applyFinish_ok h ..

theorem phApply_ok (h : FailsOnlyAt g e) (c : Cfg) (k : Core) : ∃ em, phApply g c e k = .ok em := by
  unfold phApply
  cases c.t4Enabled with
  | false => exact ⟨_, rfl⟩
  | true =>
    cases c.storeKind with
    | none => exact applyFinish_ok h ..
    | noFn => exact applyFinish_ok h ..
    | ok =>
      cases hx : e.storeBatch k.t4.approved with
      | ok r => exact applyAfterStore_ok h ..
      | error x =>
        obtain ⟨⟨a, cl, cs⟩, he⟩ := applyEach_ok (g := g) h.storeOne k.t4.approved
        dsimp only
        rw [if_pos (h.storeBatch _ x hx), he]
        exact applyAfterStore_ok h ..

theorem reflPart_ok (h : FailsOnlyAt g e) (c : Cfg) (k : Core) : ∃ r, reflPart g c e k = .ok r := by
  obtain ⟨a, ha⟩ := tryD_ok_of (⟨0, 0⟩ : ReflOut) h.reflect
  unfold reflPart
  rw [ha]
  cases hx : e.reflectRun with
  | some x => exact ⟨_, if_pos (h.reflectRun x hx)⟩
  | none =>
    cases c.dryRun with
    | true => exact ⟨_, rfl⟩
    | false => cases (c.allowReflection && (k.plan.reflection || k.st.plannerFlag)) <;> exact ⟨_, rfl⟩

theorem phReflect_ok (h : FailsOnlyAt g e) (c : Cfg) (k : Core) : ∃ em, phReflect g c e k = .ok em := by
  obtain ⟨⟨res, cs⟩, hr⟩ := reflPart_ok h c k
  obtain ⟨w, hw⟩ := tryD_ok_of 0 h.reflectWrite
  obtain ⟨a, ha⟩ := tryD_ok_of () h.reflectLog
  unfold phReflect
  rw [hr, hw, ha]
  cases res with
  | none => exact ⟨_, rfl⟩
  | some r =>
    dsimp only
    by_cases hr : 0 < r.entries
    · rw [if_pos hr]; exact ⟨_, rfl⟩
    · rw [if_neg hr]; exact ⟨_, rfl⟩

theorem phFinish_ok (h : FailsOnlyAt g e) (c : Cfg) (k : Core) : ∃ em, phFinish g c e k = .ok em := by
  obtain ⟨a, ha⟩ := tryD_ok_of () h.health
  simp only [phFinish, ha]
  exact ⟨_, rfl⟩

theorem applyLoop_fail (s : Site) (f : Nat → Except Exc Unit) (n i : Nat) (cs : List Site) (s' : Site) (x : Exc)
    (h : (applyLoop s f n i cs).2 = some (s', x)) : s' = s ∧ ∃ j, f j = .error x := by
  induction n generalizing i cs with
  | zero => cases h
  | succ n ih =>
    unfold applyLoop at h
    cases hf : f i with
    | ok u => rw [hf] at h; exact ih _ _ h
    | error y =>
      rw [hf] at h
      obtain ⟨rfl, rfl⟩ := Prod.mk.inj (Option.some.inj h)
      exact ⟨rfl, i, hf⟩

theorem gelPass_guarded {on : Bool} {sc sa : Site} {cand : Except Exc Nat} {app : Nat → Except Exc Unit} {cap : Nat}
    {cs : List Site} {s : Site} {x : Exc} (hc : ∀ x, cand = .error x → g sc = true)
    (ha : ∀ i x, app i = .error x → g sa = true) (hp : (gelPass on sc sa cand app cap cs).2.1 = some (s, x)) :
    g s = true := by
  unfold gelPass at hp
  split at hp
  · split at hp
    · obtain ⟨rfl, rfl⟩ := Prod.mk.inj (Option.some.inj hp)
      exact hc _ rfl
    · split at hp
      · rename_i hl
        obtain rfl := Option.some.inj hp
        obtain ⟨rfl, j, hj⟩ := applyLoop_fail _ _ _ _ _ _ _ (congrArg (·.2) hl)
        exact ha _ _ hj
      · cases hp
  · cases hp

theorem gelBody_fail (h : FailsOnlyAt g e) (c : Cfg) (cs : List Site) (s : Site) (x : Exc) (r : Option Rec)
    (hb : gelBody c e = (cs, some (s, x), r)) : g s = true := by
  unfold gelBody at hb
  split at hb
  · simp only [] at hb
    split at hb
    · rename_i f hf
      obtain rfl := Option.some.inj (congrArg (·.2.1) hb)
      exact gelPass_guarded h.mergeCand h.applyMerge hf
    · split at hb
      · rename_i f hf
        obtain rfl := Option.some.inj (congrArg (·.2.1) hb)
        exact gelPass_guarded h.splitCand h.applySplit hf
      · split at hb
        · rename_i f hf
          obtain rfl := Option.some.inj (congrArg (·.2.1) hb)
          exact gelPass_guarded h.promote h.applyPromo hf
        · cases hb
  · cases hb

theorem gelBody_rec (c : Cfg) (e : Env) (cs : List Site) (r : Rec) (hb : gelBody c e = (cs, none, some r)) :
    r.stream = .gel := by
  unfold gelBody at hb
  split at hb
  · simp only [] at hb
    split at hb
    · cases hb
    · split at hb
      · cases hb
      · split at hb
        · cases hb
        · exact (Option.some.inj (congrArg (·.2.2) hb)) ▸ rfl
  · cases hb

theorem phGelBlock_ok (h : FailsOnlyAt g e) (c : Cfg) (k : Core) : ∃ em, phGelBlock g c e k = .ok em := by
  unfold phGelBlock
  cases (c.t4Enabled && c.graphEnabled) with
  | false => exact ⟨_, rfl⟩
  | true =>
    rw [if_pos rfl]
    split
    · rename_i cs s x r hb
      exact ⟨_, if_pos (gelBody_fail h c cs s x r hb)⟩
    · exact ⟨_, rfl⟩
    · exact ⟨_, rfl⟩

/-- whenever the GEL maintenance phase completes it changes neither the working set nor the canonical log,
and never ends the turn -/
theorem phGelBlock_inert (g : Site → Bool) (c : Cfg) (e : Env) (k : Core) (em : Emit)
    (h : phGelBlock g c e k = .ok em) : proj (.ok em) = .ok (k, [], none) := by
  unfold phGelBlock at h
  split at h
  · split at h
    · split at h
      · cases h; rfl
      · cases h
    · rename_i cs r hb
      cases h
      simp only [proj, canonLogs, List.filter, gelBody_rec c e cs r hb, Stream.canonical]
    · cases h; rfl
  · cases h; rfl

end ok

theorem proj_yieldCheck_calls (c : Cfg) (e : Env) (p : YPoint) (k : Core) (l : Line) (logs : List Rec)
    (cs cs2 : List Site) : proj (yieldCheck c e p k l logs cs) = proj (yieldCheck c e p k l logs cs2) := by
  unfold yieldCheck
  cases c.schedEnabled with
  | false => rfl
  | true => cases e.yieldAt p k.t1 k.t2 k.plan <;> rfl

end Clem.Turn

namespace Clem.Quality

/-- `apply_quality` reads its configuration only through its four layers: two configurations under which every
layer does the same give the same outcome.  Each layer reads one or two flags, so for a change of one flag all but
one or two of the hypotheses are `rfl`. -/
theorem applyQuality_congr {g : QSite → Bool} {c c' : QCfg} {e : QEnv} {r : List Nat}
    (h1 : hybridStep g c e r = hybridStep g c' e r) (h2 : ∀ l, fusionStep g c e l = fusionStep g c' e l)
    (h3 : ∀ l mu n, fallbackStep g c e l mu n = fallbackStep g c' e l mu n)
    (h4 : traceStep g c e = traceStep g c' e) : applyQuality g c e r = applyQuality g c' e r := by
  simp only [applyQuality, h1, h2, h3, h4]

/-- The fallback layer with a failing, protected MMR fallback does what it does with MMR off: nothing.  (When MMR
already ran in the fusion block the layer is skipped under either configuration.) -/
theorem fallbackStep_fail_eq_off {g : QSite → Bool} (c : QCfg) {e : QEnv}
    (hf : ∀ l, ∃ x, e.mmrFallback l = .error x) (hg : g .mmrFallback = true) (l : List Nat) (mu : Bool) (n : Nat) :
    fallbackStep g c e l mu n = fallbackStep g { c with mmrOn := false } e l mu n := by
  obtain ⟨x, hx⟩ := hf l
  simp only [fallbackStep, hx, hg, if_true, ite_self, Bool.and_false, Bool.false_eq_true]

end Clem.Quality
