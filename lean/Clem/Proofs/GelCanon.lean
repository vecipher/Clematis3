import Clem.Proofs.GelBounds
import Clem.Proofs.GelKeys
import Clem.Proofs.KeyedList

/-! Canonical keys as an invariant of every operation (any carrier). -/
namespace Clem.Gel
open Clem.Py

variable {α : Type}

def Canon (es : List (Edge α)) : Prop :=
  (∀ e ∈ es, edgeCanonB e = true) ∧ (es.map Edge.key).Nodup

theorem canonB_iff (es : List (Edge α)) : canonB es = true ↔ Canon es := by
  rw [canonB, Bool.and_eq_true, List.all_eq_true, decide_eq_true_eq]; rfl

theorem canon_upsert {k : Str} {f : Edge α → Edge α} {d : Edge α} {es : List (Edge α)}
    (hf : ∀ e, (f e).key = e.key ∧ edgeCanonB (f e) = edgeCanonB e)
    (hdk : d.key = k) (hdc : edgeCanonB d = true) (h : Canon es) : Canon (upsert k f d es) := by
  refine ⟨fun e he => ?_, ?_⟩
  · rcases mem_upsert he with he | ⟨e0, rfl, rfl | ⟨he0, _⟩⟩
    · exact h.1 e he
    · exact (hf _).2.trans hdc
    · exact (hf _).2.trans (h.1 e0 he0)
  · rw [upsert_keys (fun e => (hf e).1) hdk]
    exact KeyedList.nodup_ite_snoc h.2

theorem edgeKey_edge_canon (a b : Str) (e : Edge α) (hk : e.key = (edgeKey a b).key)
    (hs : e.src = (edgeKey a b).src) (hd : e.dst = (edgeKey a b).dst) : edgeCanonB e = true := by
  obtain ⟨h1, h2, _⟩ := edgeKey_canon a b
  rw [edgeCanonB, hk, hs, hd, h1, h2, beq_iff_eq.mpr rfl]; rfl

variable [NumGel α]

theorem canon_stepEdges (c : Cfg α) (pw : α → α → α) (op : Op α) (es : List (Edge α))
    (h : Canon es) : Canon (stepEdges c pw es op) := by
  cases op with
  | observe items turn =>
    exact Fold.foldl_invariant _ (obsStep c turn) _ (fun es p _ hes =>
      canon_upsert (fun _ => ⟨rfl, rfl⟩) rfl (edgeKey_edge_canon p.1 p.2 _ rfl rfl rfl) hes) h
  | promote p =>
    exact Fold.foldl_invariant _ (attachStep p) _ (fun es m _ hes =>
      canon_upsert (fun _ => ⟨rfl, rfl⟩) rfl (edgeKey_edge_canon p.cid m _ rfl rfl rfl) hes) h
  | tick dt turn =>
    refine ⟨fun e he => ?_, ?_⟩
    · obtain ⟨e0, he0, rfl⟩ := mem_filterMap_tickEdge he
      exact h.1 e0 he0
    · rw [stepEdges, filterMap_tickEdge, List.map_map]
      exact KeyedList.nodup_keys_filter _ h.2
  | merge r => exact h
  | split r => exact h

theorem canon_run (c : Cfg α) (pw : α → α → α) (ops : List (Op α)) {s : State α}
    (h : Canon (edgesOf s)) : Canon (edgesOf (run c pw s ops)) :=
  run_inv c pw (fun op _ => canon_stepEdges c pw op) h

omit [NumGel α] in
theorem canon_none : Canon (edgesOf (none : State α)) := ⟨fun _ h => (nomatch h), List.nodup_nil⟩

end Clem.Gel
