/-
Lemmas about `Clem.Py.J`: dict primitives under `lookup`, JSON-document equality `J.Equiv`
(lookup-based: same keys at every level, equal leaves, key order ignored) and soundness of the
Boolean `J.eqvG` / `J.eqv` with respect to it.
-/
import Clem.Py.Json

namespace Clem.Py.J

@[simp] theorem lookup_nil (k : Str) : lookup k [] = none := rfl

theorem lookup_cons (k k' : Str) (v : J) (es : List (Str × J)) :
    lookup k ((k', v) :: es) = if k = k' then some v else lookup k es := rfl

theorem lookup_dset (k k' : Str) (v : J) (es : List (Str × J)) :
    lookup k (dset k' v es) = if k = k' then some v else lookup k es := by
  fun_induction dset k' v es with
  | case1 => rfl
  | case2 v' es =>
    rw [lookup_cons, lookup_cons]
    by_cases h : k = k'
    · rw [if_pos h, if_pos h]
    · rw [if_neg h, if_neg h, if_neg h]
  | case3 k2 v' es h ih =>
    rw [lookup_cons, lookup_cons, ih]
    by_cases h2 : k = k2
    · rw [if_pos h2, if_pos h2, if_neg fun e => h (e.symm.trans h2)]
    · rw [if_neg h2, if_neg h2]

theorem derase_cons_self (k : Str) (v : J) (es : List (Str × J)) :
    derase k ((k, v) :: es) = derase k es :=
  List.filter_cons_of_neg (by rw [beq_iff_eq.mpr rfl]; exact Bool.false_ne_true)

theorem derase_cons_ne {k k2 : Str} (h : k2 ≠ k) (v : J) (es : List (Str × J)) :
    derase k ((k2, v) :: es) = (k2, v) :: derase k es :=
  List.filter_cons_of_pos (by simpa using h)

theorem lookup_derase (k k' : Str) (es : List (Str × J)) :
    lookup k (derase k' es) = if k = k' then none else lookup k es := by
  induction es with
  | nil => exact (ite_self none).symm
  | cons e es ih =>
    obtain ⟨k2, v2⟩ := e
    rw [lookup_cons]
    by_cases h : k2 = k'
    · subst h
      rw [derase_cons_self, ih]
      by_cases h2 : k = k2
      · rw [if_pos h2, if_pos h2]
      · rw [if_neg h2, if_neg h2, if_neg h2]
    · rw [derase_cons_ne h, lookup_cons, ih]
      by_cases h2 : k = k2
      · rw [if_pos h2, if_pos h2, if_neg fun e => h (h2.symm.trans e)]
      · rw [if_neg h2, if_neg h2]

theorem mem_of_lookup {k : Str} {v : J} {es : List (Str × J)} (h : lookup k es = some v) :
    (k, v) ∈ es := by
  induction es with
  | nil => cases h
  | cons e es ih =>
    obtain ⟨k2, v2⟩ := e
    rw [lookup_cons] at h
    split at h
    · next h2 => cases h; exact h2 ▸ List.mem_cons_self
    · exact List.mem_cons_of_mem _ (ih h)

theorem hasKey_iff_mem_keys (k : Str) (es : List (Str × J)) : hasKey k es = true ↔ k ∈ keys es := by
  induction es with
  | nil => exact ⟨nofun, nofun⟩
  | cons e es ih =>
    obtain ⟨k2, v2⟩ := e
    show (lookup k ((k2, v2) :: es)).isSome = true ↔ k ∈ k2 :: keys es
    rw [lookup_cons, List.mem_cons]
    by_cases h2 : k = k2
    · rw [if_pos h2]; exact ⟨fun _ => .inl h2, fun _ => rfl⟩
    · rw [if_neg h2]; exact ih.trans ⟨.inr, fun h => h.resolve_left h2⟩

theorem hasKey_false_iff (k : Str) (es : List (Str × J)) : hasKey k es = false ↔ lookup k es = none := by
  simp [hasKey]

theorem hasKey_of_lookup {k : Str} {v : J} {es : List (Str × J)} (h : lookup k es = some v) :
    hasKey k es = true := by simp [hasKey, h]

theorem hasKey_of_mem {k : Str} {v : J} {es : List (Str × J)} (h : (k, v) ∈ es) : hasKey k es = true :=
  (hasKey_iff_mem_keys k es).2 (List.mem_map.2 ⟨(k, v), h, rfl⟩)

theorem lookup_of_mem_nodup {k : Str} {v : J} {es : List (Str × J)} (hn : nodupKeys es = true)
    (h : (k, v) ∈ es) : lookup k es = some v := by
  induction es with
  | nil => simp at h
  | cons e es ih =>
    obtain ⟨k2, v2⟩ := e
    simp only [nodupKeys, Bool.and_eq_true, Bool.not_eq_true'] at hn
    rw [lookup_cons]
    rcases List.mem_cons.1 h with h1 | h1
    · cases h1; simp
    · have hne : k ≠ k2 := by
        intro e
        have hk := hasKey_of_mem h1
        rw [e, hn.1] at hk; cases hk
      simp [hne, ih hn.2 h1]

theorem eq_obj_of_isObj : ∀ {v : J}, isObj v = true → ∃ es, v = .obj es
  | .obj es, _ => ⟨es, rfl⟩

theorem size_of_mem {k : Str} {v : J} {es : List (Str × J)} (h : (k, v) ∈ es) : size v ≤ sizeO es := by
  induction es with
  | nil => simp at h
  | cons e es ih =>
    obtain ⟨k2, v2⟩ := e
    simp only [sizeO]
    rcases List.mem_cons.1 h with h | h
    · cases h; omega
    · have := ih h; omega

theorem wf_of_mem {k : Str} {v : J} {es : List (Str × J)} (hw : wfO es = true) (h : (k, v) ∈ es) :
    wf v = true := by
  induction es with
  | nil => simp at h
  | cons e es ih =>
    obtain ⟨k2, v2⟩ := e
    simp only [wfO, Bool.and_eq_true] at hw
    rcases List.mem_cons.1 h with h | h
    · cases h; exact hw.1
    · exact ih hw.2 h

/-- Same JSON document: identical leaves (type and value), arrays element-wise, objects with the
    same key set and equivalent values under every key — key order ignored, like Python `==` on
    dicts and like the canonical (`sort_keys=True`) writer. -/
inductive Equiv : J → J → Prop
  | null : Equiv .null .null
  | bool (b : Bool) : Equiv (.bool b) (.bool b)
  | int (n : Int) : Equiv (.int n) (.int n)
  | flt (b : Nat) : Equiv (.flt b) (.flt b)
  | str (s : Str) : Equiv (.str s) (.str s)
  | anil : Equiv (.arr []) (.arr [])
  | acons {x y : J} {xs ys : List J} : Equiv x y → Equiv (.arr xs) (.arr ys) →
      Equiv (.arr (x :: xs)) (.arr (y :: ys))
  | obj {a b : List (Str × J)} : (∀ k, lookup k a = none ↔ lookup k b = none) →
      (∀ k x y, lookup k a = some x → lookup k b = some y → Equiv x y) → Equiv (.obj a) (.obj b)

mutual
theorem Equiv.refl : ∀ a : J, Equiv a a
  | .null => .null
  | .bool b => .bool b
  | .int n => .int n
  | .flt b => .flt b
  | .str s => .str s
  | .arr xs => Equiv.reflL xs
  | .obj es => .obj (fun _ => Iff.rfl) (fun k x y hx hy => by
      rw [hx] at hy; cases hy; exact Equiv.reflO es k x hx)
theorem Equiv.reflL : ∀ xs : List J, Equiv (.arr xs) (.arr xs)
  | [] => .anil
  | x :: xs => .acons (Equiv.refl x) (Equiv.reflL xs)
theorem Equiv.reflO : ∀ (es : List (Str × J)) (k : Str) (x : J), lookup k es = some x → Equiv x x
  | [], _, _, h => by simp at h
  | (k', v) :: es, k, x, h => by
      rw [lookup_cons] at h
      by_cases hk : k = k'
      · simp only [hk, if_true, Option.some.injEq] at h; subst h; exact Equiv.refl v
      · simp only [hk, if_false] at h; exact Equiv.reflO es k x h
end

theorem Equiv.symm {a b : J} (h : Equiv a b) : Equiv b a := by
  induction h with
  | null => exact .null
  | bool b => exact .bool b
  | int n => exact .int n
  | flt b => exact .flt b
  | str s => exact .str s
  | anil => exact .anil
  | acons _ _ ih1 ih2 => exact .acons ih1 ih2
  | obj h1 _ ih => exact .obj (fun k => (h1 k).symm) (fun k x y hx hy => ih k y x hy hx)

theorem Equiv.trans {a b c : J} (h1 : Equiv a b) (h2 : Equiv b c) : Equiv a c := by
  induction h1 generalizing c with
  | null => exact h2
  | bool b => exact h2
  | int n => exact h2
  | flt b => exact h2
  | str s => exact h2
  | anil => exact h2
  | acons _ _ ih1 ih2 =>
    cases h2 with
    | acons g1 g2 => exact .acons (ih1 g1) (ih2 g2)
  | obj f1 _ ih =>
    cases h2 with
    | obj g1 g2 =>
      refine .obj (fun k => (f1 k).trans (g1 k)) (fun k x z hx hz => ?_)
      rename_i b' _ _
      cases hy : lookup k b' with
      | none => have := (f1 k).2 hy; rw [hx] at this; cases this
      | some y => exact ih k x y hx hy (g2 k y z hy hz)

/-- objects are equal when they agree, up to `Equiv`, under every key -/
theorem Equiv.obj_of_opt {a b : List (Str × J)} (h : ∀ k, Option.Rel Equiv (lookup k a) (lookup k b)) :
    Equiv (.obj a) (.obj b) := by
  refine .obj (fun k => ?_) (fun k x y hx hy => ?_)
  · have := h k
    generalize lookup k a = x, lookup k b = y at this
    cases this with
    | none => exact Iff.rfl
    | some => exact ⟨nofun, nofun⟩
  · have := h k
    rw [hx, hy] at this
    cases this with
    | some e => exact e

/-- Soundness of the three mutually recursive Boolean checks, by the induction principle of their
own recursion: `eqvO` finds for every entry of the left object an equivalent one on the right, and
the `keys b ⊆ keys a` test of `eqvG` supplies the converse inclusion of key sets. -/
theorem eqvGOL_sound (nan : Bool) :
    (∀ a b, eqvG nan a b = true → Equiv a b) ∧
    (∀ a b, eqvO nan a b = true →
      ∀ k x, lookup k a = some x → ∃ y, lookup k b = some y ∧ Equiv x y) ∧
    (∀ a b, eqvL nan a b = true → Equiv (.arr a) (.arr b)) := by
  apply eqvG.mutual_induct
  case case1 => exact fun _ => .null
  case case2 => intro a b h; rw [eqvG, beq_iff_eq] at h; exact h ▸ .bool a
  case case3 => intro a b h; rw [eqvG, beq_iff_eq] at h; exact h ▸ .int a
  case case4 => intro a b h; rw [eqvG, Bool.and_eq_true, beq_iff_eq] at h; exact h.1 ▸ .flt a
  case case5 => intro a b h; rw [eqvG, beq_iff_eq] at h; exact h ▸ .str a
  case case6 => intro a b ih h; rw [eqvG] at h; exact ih h
  case case7 =>
    intro a b ih h
    rw [eqvG, Bool.and_eq_true, List.all_eq_true] at h
    have key := ih h.1
    refine Equiv.obj_of_opt fun k => ?_
    cases ha : lookup k a with
    | none =>
      cases hb : lookup k b with
      | none => exact .none
      | some y =>
        have := h.2 k ((hasKey_iff_mem_keys k b).1 (hasKey_of_lookup hb))
        rw [hasKey, ha] at this
        cases this
    | some x =>
      obtain ⟨y, hy, e⟩ := key k x ha
      rw [hy]
      exact .some e
  case case8 =>
    intro a b _ _ _ _ _ _ _ h
    rw [eqvG] at h
    · cases h
    all_goals assumption
  case case9 => exact fun _ => .anil
  case case10 =>
    intro x xs y ys ih1 ih2 h
    rw [eqvL, Bool.and_eq_true] at h
    exact .acons (ih1 h.1) (ih2 h.2)
  case case11 =>
    intro a b _ _ h
    rw [eqvL] at h
    · cases h
    all_goals assumption
  case case12 => intro b _ k x h; cases h
  case case13 =>
    intro k' v es b ih1 ih2 h k x hx
    rw [eqvO, Bool.and_eq_true] at h
    rw [lookup_cons] at hx
    split at hx
    · cases hx
      cases hb : lookup k' b with
      | none => rw [hb] at h; cases h.1
      | some y => rw [hb] at h; exact ⟨y, by subst k; exact hb, ih1 y h.1⟩
    · exact ih2 h.2 k x hx

theorem eqvG_sound (nan : Bool) : ∀ a b : J, eqvG nan a b = true → Equiv a b :=
  (eqvGOL_sound nan).1

theorem eqvL_sound (nan : Bool) : ∀ a b : List J, eqvL nan a b = true → Equiv (.arr a) (.arr b) :=
  (eqvGOL_sound nan).2.2

theorem eqvO_sound (nan : Bool) : ∀ a b : List (Str × J), eqvO nan a b = true →
    ∀ k x, lookup k a = some x → ∃ y, lookup k b = some y ∧ Equiv x y :=
  (eqvGOL_sound nan).2.1

/-- the Boolean monitor `J.eqv` only accepts equal JSON documents. -/
theorem eqv_sound {a b : J} (h : eqv a b = true) : Equiv a b := eqvG_sound true a b h

end Clem.Py.J
