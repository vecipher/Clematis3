/-
Lemmas about the snapshot model (C06), in the order of the pipeline: insertion-ordered
dictionaries (`aget`/`ainsert`/`ofPairs`), the per-weight pipeline `sw` under the carrier laws
`WLaws`, sanitised edge records, the edge loop and the re-keying loop with their invariants
(`SanEdges`, `CanonEdges`), the whole-graph fixpoint lemmas (`sanitizeW_fix`, `canonW_fix`,
`canonL_fix`), the store export/import round trip (`StoreOk`), discovery (`firstMax`,
`pickLatest`), and what the loader reads out of a written body, with the definitions the C06
statements are about (`Stable`, `reload`, `reloadN`).  No Mathlib needed.
-/
import Clem.Model.Snap
import Clem.Proofs.KeyedList
import Clem.Proofs.Fold

namespace Clem.Snap
open Clem.Py.JV

section Assoc
variable {K V : Type} [DecidableEq K]

omit [DecidableEq K] in
theorem mem_keys_cons {k k' : K} {v' : V} {r : List (K × V)} :
    k ∈ keys ((k', v') :: r) ↔ k = k' ∨ k ∈ keys r := List.mem_cons

theorem ainsert_of_not_mem {k : K} {v : V} {l : List (K × V)} (h : k ∉ keys l) :
    ainsert k v l = l ++ [(k, v)] := by
  fun_induction ainsert k v l with
  | case1 => rfl
  | case2 v' r => exact absurd (mem_keys_cons.2 (.inl rfl)) h
  | case3 k' v' r e ih => rw [ih fun hm => h (mem_keys_cons.2 (.inr hm))]; rfl

theorem keys_ainsert (k : K) (v : V) (l : List (K × V)) :
    keys (ainsert k v l) = if k ∈ keys l then keys l else keys l ++ [k] := by
  fun_induction ainsert k v l with
  | case1 => rfl
  | case2 v' r => exact (if_pos (mem_keys_cons.2 (.inl rfl))).symm
  | case3 k' v' r e ih =>
    show k' :: keys (ainsert k v r) = _
    rw [ih]
    by_cases hm : k ∈ keys r
    · rw [if_pos hm, if_pos (mem_keys_cons.2 (.inr hm))]; rfl
    · rw [if_neg hm, if_neg fun h => (mem_keys_cons.1 h).elim (fun e' => e e'.symm) hm]; rfl

theorem mem_ainsert {k : K} {v : V} {l : List (K × V)} {p : K × V} (h : p ∈ ainsert k v l) :
    p = (k, v) ∨ p ∈ l := by
  fun_induction ainsert k v l with
  | case1 => exact .inl (List.mem_singleton.1 h)
  | case2 v' r => exact (List.mem_cons.1 h).imp_right (List.mem_cons_of_mem _)
  | case3 k' v' r e ih =>
    rcases List.mem_cons.1 h with h | h
    · exact .inr (h ▸ List.mem_cons_self)
    · exact (ih h).imp_right (List.mem_cons_of_mem _)

theorem aget_ainsert (k k' : K) (v : V) (l : List (K × V)) :
    aget k' (ainsert k v l) = if k = k' then some v else aget k' l := by
  fun_induction ainsert k v l with
  | case1 => rfl
  | case2 v' r =>
    show (if k = k' then some v else aget k' r) = if k = k' then some v else if k = k' then _ else _
    split <;> rfl
  | case3 k₁ v' r e ih =>
    show (if k₁ = k' then some v' else aget k' (ainsert k v r)) =
      if k = k' then some v else if k₁ = k' then some v' else aget k' r
    rw [ih]
    by_cases e₁ : k = k'
    · rw [if_pos e₁, if_pos e₁, if_neg fun e₂ => e (e₂.trans e₁.symm)]
    · rw [if_neg e₁, if_neg e₁]

theorem nodup_keys_ainsert {k : K} {v : V} {l : List (K × V)} (h : (keys l).Nodup) :
    (keys (ainsert k v l)).Nodup := by
  rw [keys_ainsert]
  exact KeyedList.nodup_ite_snoc h

/-- Distinctness of the values seen through `f`, together with a reserve `rest` of further
`f`-values, survives inserting a value whose `f`-value is the next one of the reserve. -/
theorem map_snd_ainsert_nodup_append {β : Type} (f : V → β) {k : K} {v : V} {l : List (K × V)}
    {rest : List β} (h : (l.map (fun p => f p.2) ++ f v :: rest).Nodup) :
    ((ainsert k v l).map (fun p => f p.2) ++ rest).Nodup := by
  fun_induction ainsert k v l with
  | case1 => exact h
  | case2 v' r => exact List.perm_middle.nodup_iff.1 (List.nodup_cons.1 h).2
  | case3 k' v' r e ih =>
    obtain ⟨h1, h2⟩ := List.nodup_cons.1 h
    refine List.nodup_cons.2 ⟨fun hm => h1 ?_, ih h2⟩
    rcases List.mem_append.1 hm with hm | hm
    · obtain ⟨p, hp, e'⟩ := List.mem_map.1 hm
      rcases mem_ainsert hp with rfl | hp
      · exact List.mem_append_right _ (e' ▸ List.mem_cons_self)
      · exact List.mem_append_left _ (List.mem_map.2 ⟨p, hp, e'⟩)
    · exact List.mem_append_right _ (List.mem_cons_of_mem _ hm)

/-- Inserting under a key that is new to `acc` appends; what is left of a duplicate-free key
sequence stays duplicate-free.  The step of every "rebuild a dictionary from its own entries"
argument below. -/
theorem ainsert_fresh {k : K} (v : V) {acc : List (K × V)} {ks : List K}
    (h : (keys acc ++ k :: ks).Nodup) :
    ainsert k v acc = acc ++ [(k, v)] ∧ (keys (acc ++ [(k, v)]) ++ ks).Nodup := by
  refine ⟨ainsert_of_not_mem fun hm => ?_, ?_⟩
  · exact (List.nodup_append.1 h).2.2 k hm k List.mem_cons_self rfl
  · rw [keys, List.map_append, List.append_assoc]; exact h

/-- A loop that, at each of the entries `l`, inserts that entry, appends them when their keys are
new to `acc` and to each other. -/
theorem foldl_ainsert_nodup {step : List (K × V) → K × V → List (K × V)} (l acc : List (K × V))
    (hs : ∀ p ∈ l, ∀ a, step a p = ainsert p.1 p.2 a) (h : (keys acc ++ keys l).Nodup) :
    l.foldl step acc = acc ++ l := by
  induction l generalizing acc with
  | nil => exact (List.append_nil acc).symm
  | cons p t ih =>
    obtain ⟨h1, h2⟩ := ainsert_fresh p.2 h
    rw [List.foldl_cons, hs p List.mem_cons_self, h1,
      ih _ (fun q hq => hs q (List.mem_cons_of_mem _ hq)) h2, List.append_assoc]
    rfl

theorem ofPairs_of_nodup {l : List (K × V)} (h : (keys l).Nodup) : ofPairs l = l :=
  foldl_ainsert_nodup l [] (fun _ _ _ => rfl) h

theorem nodup_keys_ofPairs (l : List (K × V)) : (keys (ofPairs l)).Nodup :=
  Fold.foldl_invariant (fun a => (keys a).Nodup) _ l (fun _ _ _ => nodup_keys_ainsert) List.nodup_nil

end Assoc

/-- What the proofs assume of the float carrier and of `round(x, 6)` (all hold for IEEE doubles
with CPython's `round`; monitored on the real function by the harness, and proved for the
integer-grid carrier `Clem.Props.optOps` as non-vacuity). -/
structure WLaws {W : Type} (o : WOps W) (b : Bounds W) : Prop where
  lt_irrefl : ∀ a, o.lt a a = false
  lt_asymm : ∀ a c, o.lt a c = true → o.lt c a = false
  lo_lt_hi : o.lt b.wmin b.wmax = true
  fin_zero : o.fin o.zero = true
  round_zero : o.round o.zero = o.zero
  round_fin : ∀ x, o.fin x = true → o.fin (o.round x) = true
  round_idem : ∀ x, o.fin x = true → o.round (o.round x) = o.round x
  /-- `round` is constant from `x` up to (excluding) `round x` … -/
  round_const_up : ∀ x y, o.fin x = true → o.lt y x = false → o.lt y (o.round x) = true →
    o.fin y = true ∧ o.round y = o.round x
  /-- … and from `x` down to `round x`. -/
  round_const_dn : ∀ x y, o.fin x = true → o.lt x y = false → o.lt (o.round x) y = true →
    o.fin y = true ∧ o.round y = o.round x
  /-- `0 < lo ≤ x` and `|round x| < ε` give `|round6 lo| < ε` (monotone `round`, `abs`). -/
  prune_lo : ∀ x, o.lt o.zero b.wmin = true → o.fin x = true → o.lt x b.wmin = false →
    o.lt (o.abs (o.round x)) b.eps = true → o.lt (o.abs (round6 o b.wmin)) b.eps = true
  prune_hi : ∀ x, o.lt b.wmax o.zero = true → o.fin x = true → o.lt b.wmax x = false →
    o.lt (o.abs (o.round x)) b.eps = true → o.lt (o.abs (round6 o b.wmax)) b.eps = true

section Weight
variable {W : Type} {o : WOps W} {b : Bounds W}

/-- `x` lies between the bounds as far as `_clamp` can tell. -/
def InRange (o : WOps W) (b : Bounds W) (x : W) : Prop :=
  o.lt x b.wmin = false ∧ o.lt b.wmax x = false

theorem clamp_of_inRange {x : W} (h : InRange o b x) : clamp o x b.wmin b.wmax = x := by
  rw [clamp, if_neg (Bool.eq_false_iff.1 h.1), if_neg (Bool.eq_false_iff.1 h.2)]

theorem clamp_inRange (L : WLaws o b) (w : W) : InRange o b (clamp o w b.wmin b.wmax) := by
  rw [clamp]
  by_cases h1 : o.lt w b.wmin = true
  · rw [if_pos h1]; exact ⟨L.lt_irrefl _, L.lt_asymm _ _ L.lo_lt_hi⟩
  · rw [if_neg h1]
    by_cases h2 : o.lt b.wmax w = true
    · rw [if_pos h2]; exact ⟨L.lt_asymm _ _ L.lo_lt_hi, L.lt_irrefl _⟩
    · rw [if_neg h2]; exact ⟨Bool.eq_false_iff.2 h1, Bool.eq_false_iff.2 h2⟩

/-- the value handed to `_round6` -/
def pre (o : WOps W) (b : Bounds W) (w : W) : W :=
  if o.fin (clamp o w b.wmin b.wmax) then clamp o w b.wmin b.wmax else clamp o o.zero b.wmin b.wmax

theorem sw_eq (w : W) : sw o b w = prune o b.eps (round6 o (pre o b w)) := rfl

theorem pre_inRange (L : WLaws o b) (w : W) : InRange o b (pre o b w) := by
  unfold pre; split <;> exact clamp_inRange L _

theorem pre_of_inRange_fin {x : W} (h : InRange o b x) (hf : o.fin x = true) : pre o b x = x := by
  rw [pre, clamp_of_inRange h, if_pos hf]

/-- `round6 ∘ pre` reproduces `round x` when applied to `round x`, for in-range finite `x`:
the "bounds with more than six decimals" case is where `round x` leaves the range and the
clamp brings it back to a bound that rounds to the same value. -/
theorem round6_pre_round (L : WLaws o b) {x : W} (h : InRange o b x) (hf : o.fin x = true) :
    round6 o (pre o b (o.round x)) = o.round x := by
  rw [pre, clamp]
  by_cases h1 : o.lt (o.round x) b.wmin = true
  · obtain ⟨hfl, hrl⟩ := L.round_const_dn x b.wmin hf h.1 h1
    rw [if_pos h1, if_pos hfl, round6, if_pos hfl, hrl]
  · rw [if_neg h1]
    by_cases h2 : o.lt b.wmax (o.round x) = true
    · obtain ⟨hfh, hrh⟩ := L.round_const_up x b.wmax hf h.2 h2
      rw [if_pos h2, if_pos hfh, round6, if_pos hfh, hrh]
    · have hfr := L.round_fin x hf
      rw [if_neg h2, if_pos hfr, round6, if_pos hfr, L.round_idem x hf]

theorem prune_zero (e : W) : prune o e o.zero = o.zero := by unfold prune; split <;> rfl

theorem pre_zero : pre o b o.zero = clamp o o.zero b.wmin b.wmax := by unfold pre; split <;> rfl

theorem round6_zero (L : WLaws o b) : round6 o o.zero = o.zero := by
  rw [round6, if_pos L.fin_zero, L.round_zero]

theorem sw_zero_of_pruned (L : WLaws o b) {x : W} (hr : InRange o b x) (hf : o.fin x = true)
    (hl : o.lt (o.abs (o.round x)) b.eps = true) : sw o b o.zero = o.zero := by
  rw [sw_eq, pre_zero, clamp]
  by_cases h1 : o.lt o.zero b.wmin = true
  · rw [if_pos h1, prune, if_pos (L.prune_lo x h1 hf hr.1 hl)]
  · rw [if_neg h1]
    by_cases h2 : o.lt b.wmax o.zero = true
    · rw [if_pos h2, prune, if_pos (L.prune_hi x h2 hf hr.2 hl)]
    · rw [if_neg h2, round6_zero L, prune_zero]

theorem sw_of_fin {w : W} (hf : o.fin (pre o b w) = true) :
    sw o b w = prune o b.eps (o.round (pre o b w)) := by
  rw [sw_eq, round6, if_pos hf]

theorem sw_of_not_fin {w : W} (hf : ¬ o.fin (pre o b w) = true) : sw o b w = o.zero := by
  rw [sw_eq, round6, if_neg hf, prune_zero]

/-- **Per-weight idempotence** of clamp → (non-finite ↦ clamp 0) → round6 → ε-prune. -/
theorem sw_idem (L : WLaws o b) (w : W) : sw o b (sw o b w) = sw o b w := by
  have hr := pre_inRange L w
  by_cases hf : o.fin (pre o b w) = true
  · rw [sw_of_fin hf, prune]
    by_cases hl : o.lt (o.abs (o.round (pre o b w))) b.eps = true
    · rw [if_pos hl]; exact sw_zero_of_pruned L hr hf hl
    · rw [if_neg hl, sw_eq, round6_pre_round L hr hf, prune, if_neg hl]
  · -- nothing finite to round: the result is 0.0, and `pre 0.0 = clamp 0.0 = pre w` is not finite
    have hp : pre o b o.zero = pre o b w := by
      rw [pre_zero, pre]
      split
      · next hc => exact absurd (by rw [pre, if_pos hc]; exact hc) hf
      · rfl
    rw [sw_of_not_fin hf]
    exact sw_of_not_fin (hp ▸ hf)

end Weight

/-- What the proofs assume of `str()/float()/int()`: they are the identity on values that
already have the target type. -/
structure CvLaws {W : Type} (cv : Cv W) : Prop where
  str_str : ∀ s, cv.pyStr (.str s) = s
  float_num : ∀ x, cv.pyFloat (.num x) = some x
  int_int : ∀ n, cv.pyInt (.int n) = some n

section San
variable {W : Type} {o : WOps W} {cv : Cv W} {b : Bounds W}

/-- the key the sanitiser files a record under -/
def sanKey (cv : Cv W) : J W → Str
  | .obj kv => edgeId (edSrc cv kv) (edDst cv kv) (edRel cv kv)
  | _ => []

/-- the record the sanitiser stores -/
def sanVal (o : WOps W) (cv : Cv W) (b : Bounds W) : J W → J W
  | .obj kv => .obj (edgeRec (edSrc cv kv) (edDst cv kv) (edRel cv kv)
      (sw o b ((cv.pyFloat (getD kWeight (.num o.zero) kv)).getD o.zero))
      (getD kUpdatedAt .null kv) (getD kAttrs (.obj []) kv))
  | _ => .null

def sanE (o : WOps W) (cv : Cv W) (b : Bounds W) (v : J W) : Str × J W := (sanKey cv v, sanVal o cv b v)

/-- a dict-shaped edge whose weight converts -/
def Good (o : WOps W) (cv : Cv W) (v : J W) : Prop :=
  ∃ kv w0, v = .obj kv ∧ cv.pyFloat (getD kWeight (.num o.zero) kv) = some w0

theorem edgeStep_good {v : J W} (h : Good o cv v) (acc : List (Str × J W)) :
    edgeStep o cv b acc v = some (ainsert (sanKey cv v) (sanVal o cv b v) acc) := by
  obtain ⟨kv, w0, rfl, hw⟩ := h
  simp only [edgeStep, hw, sanKey, sanVal, Option.getD_some]

end San

section Rec
variable {W : Type} {o : WOps W} {cv : Cv W} {b : Bounds W}
variable (s d r : Str) (w : W) (u a : J W) (x : List (Str × J W))

theorem aget_src : aget kSrc (edgeRec s d r w u a ++ x) = some (.str s) := rfl
theorem aget_dst : aget kDst (edgeRec s d r w u a ++ x) = some (.str d) := rfl
theorem aget_rel : aget kRel (edgeRec s d r w u a ++ x) = some (.str r) := rfl
theorem aget_weight : aget kWeight (edgeRec s d r w u a ++ x) = some (.num w) := rfl
theorem aget_upd : aget kUpdatedAt (edgeRec s d r w u a ++ x) = some u := rfl
theorem aget_attrs : aget kAttrs (edgeRec s d r w u a ++ x) = some a := rfl
theorem ainsert_id (v : J W) :
    ainsert kId v (edgeRec s d r w u a) = edgeRec s d r w u a ++ [(kId, v)] := rfl

variable {s d r w u a x}

/-- A sanitised record, with or without further fields such as `id`, converts, and sanitising it
recomputes the `__` key and the six fields (further fields are dropped). -/
theorem san_rec (C : CvLaws cv) : Good o cv (.obj (edgeRec s d r w u a ++ x)) ∧
    sanE o cv b (.obj (edgeRec s d r w u a ++ x)) = (edgeId s d r, .obj (edgeRec s d r (sw o b w) u a)) := by
  refine ⟨⟨_, w, rfl, by rw [getD, aget_weight]; exact C.float_num w⟩, ?_⟩
  simp only [sanE, sanKey, sanVal, edSrc, edDst, edRel, getD, aget_src, aget_dst, aget_rel,
    aget_weight, aget_upd, aget_attrs, Option.getD_some, C.str_str, C.float_num]

/-- One loop iteration on an already sanitised record (with or without `id`). -/
theorem edgeStep_rec (C : CvLaws cv) (acc : List (Str × J W)) :
    edgeStep o cv b acc (.obj (edgeRec s d r w u a ++ x)) =
      some (ainsert (edgeId s d r) (.obj (edgeRec s d r (sw o b w) u a)) acc) := by
  obtain ⟨hg, he⟩ := san_rec (o := o) (b := b) (x := x) C
  obtain ⟨hk, hv⟩ := Prod.mk.inj he
  rw [edgeStep_good hg, hk, hv]

end Rec

section Loops
variable {W : Type} {o : WOps W} {cv : Cv W} {b : Bounds W}

/-- On edges that all convert and are filed under keys new to `acc` and to each other, the loop
appends their sanitised entries in order. -/
theorem edgesLoop_good (items : List (J W)) (acc : List (Str × J W))
    (hg : ∀ v ∈ items, Good o cv v) (hn : (keys acc ++ items.map (sanKey cv)).Nodup) :
    edgesLoop o cv b items acc = acc ++ items.map (sanE o cv b) := by
  induction items generalizing acc with
  | nil => exact (List.append_nil acc).symm
  | cons v t ih =>
    obtain ⟨h1, h2⟩ := ainsert_fresh (sanVal o cv b v) hn
    rw [edgesLoop, edgeStep_good (hg v List.mem_cons_self), h1]
    exact (ih _ (fun x hx => hg x (List.mem_cons_of_mem _ hx)) h2).trans (List.append_assoc ..)

/-- what the re-keying of `write_snapshot` / `load_latest_snapshot` makes of the sanitised entry
for `s d r w u a`: canonical `src→dst` key and an `id` field, unless an end is empty -/
def canonEntry (s d r : Str) (w : W) (u a : J W) : Str × J W :=
  if s.isEmpty || d.isEmpty then (edgeId s d r, .obj (edgeRec s d r w u a))
  else (arrowKey s d, .obj (edgeRec s d r w u a ++ [(kId, .str (arrowKey s d))]))

/-- an entry as `_sanitize_gel_for_write` leaves it -/
def IsSanEntry (o : WOps W) (b : Bounds W) (p : Str × J W) : Prop :=
  ∃ s d r w u a, p = (edgeId s d r, .obj (edgeRec s d r w u a)) ∧ sw o b w = w

/-- an entry as the re-keying leaves it -/
def IsCanonEntry (o : WOps W) (b : Bounds W) (p : Str × J W) : Prop :=
  ∃ s d r w u a, p = canonEntry s d r w u a ∧ sw o b w = w

def SanEdges (o : WOps W) (b : Bounds W) (es : List (Str × J W)) : Prop :=
  (keys es).Nodup ∧ ∀ p ∈ es, IsSanEntry o b p

/-- canonical entries under distinct keys whose `__` keys (what the sanitiser would file them
under) are distinct too -/
def CanonEdges (o : WOps W) (cv : Cv W) (b : Bounds W) (es : List (Str × J W)) : Prop :=
  (keys es).Nodup ∧ (∀ p ∈ es, IsCanonEntry o b p) ∧ (es.map (fun p => sanKey cv p.2)).Nodup

theorem san_of_sanEntry (C : CvLaws cv) {p : Str × J W} (h : IsSanEntry o b p) :
    Good o cv p.2 ∧ sanE o cv b p.2 = p := by
  obtain ⟨s, d, r, w, u, a, rfl, hw⟩ := h
  exact (san_rec C).imp_right fun h => h.trans (by rw [hw])

theorem canonEntry_snd (s d r : Str) (w : W) (u a : J W) :
    ∃ x, (canonEntry s d r w u a).2 = .obj (edgeRec s d r w u a ++ x) := by
  unfold canonEntry
  split
  · exact ⟨[], rfl⟩
  · exact ⟨_, rfl⟩

/-- a canonical entry converts; the sanitiser recomputes its `__` key and drops the `id` -/
theorem san_canonEntry (C : CvLaws cv) (s d r : Str) (w : W) (u a : J W) :
    Good o cv (canonEntry s d r w u a).2 ∧
    sanE o cv b (canonEntry s d r w u a).2 = (edgeId s d r, .obj (edgeRec s d r (sw o b w) u a)) := by
  obtain ⟨x, hx⟩ := canonEntry_snd s d r w u a
  rw [hx]; exact san_rec C

theorem rekeyStep_san (C : CvLaws cv) (acc : List (Str × J W)) (s d r : Str) (w : W) (u a : J W) :
    rekeyStep cv acc (edgeId s d r, .obj (edgeRec s d r w u a)) =
      ainsert (canonEntry s d r w u a).1 (canonEntry s d r w u a).2 acc := by
  have h1 : recEnd cv kSrc (edgeRec s d r w u a) = s := C.str_str s
  have h2 : recEnd cv kDst (edgeRec s d r w u a) = d := C.str_str d
  simp only [rekeyStep, h1, h2, ainsert_id, canonEntry]
  split <;> rfl

theorem edgeStep_san (hsw : ∀ w, sw o b (sw o b w) = sw o b w) {acc acc' : List (Str × J W)} {v : J W}
    (h : SanEdges o b acc) (he : edgeStep o cv b acc v = some acc') : SanEdges o b acc' := by
  revert he
  fun_cases edgeStep o cv b acc v with
  | case1 => exact nofun
  | case2 kv w0 =>
    rintro ⟨⟩
    refine ⟨nodup_keys_ainsert h.1, fun p hp => ?_⟩
    rcases mem_ainsert hp with rfl | hp
    · exact ⟨_, _, _, _, _, _, rfl, hsw w0⟩
    · exact h.2 p hp
  | case3 => rintro ⟨⟩; exact h

theorem edgesLoop_san (hsw : ∀ w, sw o b (sw o b w) = sw o b w) (items : List (J W))
    (acc : List (Str × J W)) (h : SanEdges o b acc) : SanEdges o b (edgesLoop o cv b items acc) := by
  fun_induction edgesLoop o cv b items acc with
  | case1 | case2 => exact h
  | case3 _ _ _ _ he ih => exact ih (edgeStep_san hsw h he)

/-- **sanitising sanitised edges changes nothing** -/
theorem edgesLoop_fix (C : CvLaws cv) {es : List (Str × J W)} (h : SanEdges o b es) :
    edgesLoop o cv b (es.map Prod.snd) [] = es := by
  have hs : ∀ p ∈ es, sanE o cv b p.2 = p := fun p hp => (san_of_sanEntry C (h.2 p hp)).2
  have hk : (es.map Prod.snd).map (sanKey cv) = keys es := by
    rw [List.map_map]
    exact List.map_congr_left fun p hp => congrArg Prod.fst (hs p hp)
  rw [edgesLoop_good _ _ (fun v hv => ?_) (by rw [hk]; exact h.1), List.map_map]
  · exact (List.map_congr_left hs).trans (List.map_id es)
  · obtain ⟨p, hp, rfl⟩ := List.mem_map.1 hv
    exact (san_of_sanEntry C (h.2 p hp)).1

/-- Re-keying sanitised entries `l` into canonical `acc`: the `__` keys already used and the
keys still to come are distinct all along. -/
theorem rekey_canon_aux (C : CvLaws cv) (l acc : List (Str × J W))
    (ha : (keys acc).Nodup ∧ ∀ p ∈ acc, IsCanonEntry o b p) (hl : ∀ p ∈ l, IsSanEntry o b p)
    (hn : (acc.map (fun q => sanKey cv q.2) ++ keys l).Nodup) :
    CanonEdges o cv b (l.foldl (rekeyStep cv) acc) := by
  induction l generalizing acc with
  | nil => exact ⟨ha.1, ha.2, List.append_nil (acc.map _) ▸ hn⟩
  | cons p t ih =>
    obtain ⟨s, d, r, w, u, a, rfl, hw⟩ := hl p List.mem_cons_self
    rw [List.foldl_cons, rekeyStep_san C]
    refine ih _ ⟨nodup_keys_ainsert ha.1, fun q hq => ?_⟩
      (fun q hq => hl q (List.mem_cons_of_mem _ hq)) ?_
    · rcases mem_ainsert hq with rfl | hq
      · exact ⟨s, d, r, w, u, a, rfl, hw⟩
      · exact ha.2 q hq
    · refine map_snd_ainsert_nodup_append (sanKey cv) ?_
      rw [show sanKey cv (canonEntry s d r w u a).2 = edgeId s d r from
        congrArg Prod.fst (san_canonEntry (o := o) (b := b) C s d r w u a).2]
      exact hn

/-- **sanitise-then-re-key is the identity on a canonical edge dictionary** -/
theorem rekey_edgesLoop_fix (C : CvLaws cv) {es : List (Str × J W)} (h : CanonEdges o cv b es) :
    rekey cv (edgesLoop o cv b (es.map Prod.snd) []) = es ∧
    (edgesLoop o cv b (es.map Prod.snd) []).length = es.length := by
  have hg : ∀ v ∈ es.map Prod.snd, Good o cv v := by
    intro v hv
    obtain ⟨p, hp, rfl⟩ := List.mem_map.1 hv
    obtain ⟨s, d, r, w, u, a, rfl, _⟩ := h.2.1 p hp
    exact (san_canonEntry (b := b) C s d r w u a).1
  rw [edgesLoop_good _ _ hg (by rw [List.map_map]; exact h.2.2), List.nil_append, List.map_map]
  refine ⟨?_, List.length_map ..⟩
  -- re-keying the sanitised form of a canonical entry inserts that entry
  rw [rekey, List.foldl_map]
  refine foldl_ainsert_nodup es [] (fun p hp acc => ?_) h.1
  obtain ⟨s, d, r, w, u, a, rfl, hw⟩ := h.2.1 p hp
  show rekeyStep cv acc (sanE o cv b (canonEntry s d r w u a).2) = _
  rw [(san_canonEntry C s d r w u a).2, hw, rekeyStep_san C]

end Loops

section GelLevel
variable {W : Type} {o : WOps W} {cv : Cv W} {b : Bounds W}

theorem nodesLoop_nodup (xs : List (J W)) (acc : List (Str × J W)) (h : (keys acc).Nodup) :
    (keys (nodesLoop o cv xs acc)).Nodup := by
  fun_induction nodesLoop o cv xs acc with
  | case1 | case3 => exact h
  | case2 _ _ _ _ ih =>
    refine ih ?_
    split
    · exact h
    · exact nodup_keys_ainsert h
  | case4 _ _ _ _ _ ih => exact ih h

theorem nodesOf_nodup (g : J W) : (keys (nodesOf o cv g)).Nodup := by
  unfold nodesOf
  split
  · exact nodup_keys_ofPairs _
  · exact nodesLoop_nodup _ _ List.nodup_nil
  · exact List.nodup_nil

theorem listOr_of_aget {k : Str} {l : List (Str × J W)} {xs : List (J W)}
    (h : aget k l = some (.arr xs)) : listOr k l = .arr xs := by
  unfold listOr; rw [h]

theorem listOr_isArr (k : Str) (l : List (Str × J W)) : ∃ xs, listOr k l = .arr xs := by
  unfold listOr; split <;> exact ⟨_, rfl⟩

theorem metaOut_congr (mi mi' : List (Str × J W)) (m : Nat)
    (h1 : listOr kMerges mi' = listOr kMerges mi) (h2 : listOr kSplits mi' = listOr kSplits mi)
    (h3 : listOr kPromotions mi' = listOr kPromotions mi)
    (h4 : (cv.pyInt (getD kCnc (.int 0) mi')).getD 0 = (cv.pyInt (getD kCnc (.int 0) mi)).getD 0) :
    metaOut cv mi' m = metaOut cv mi m := by
  unfold metaOut; rw [h1, h2, h3, h4]

/-- the meta block is rebuilt identically from itself (only `edges_count` follows its argument) -/
theorem metaOut_metaOut (C : CvLaws cv) (mi : List (Str × J W)) (n m : Nat) :
    metaOut cv (metaOut cv mi n) m = metaOut cv mi m := by
  obtain ⟨x1, h1⟩ := listOr_isArr kMerges mi
  obtain ⟨x2, h2⟩ := listOr_isArr kSplits mi
  obtain ⟨x3, h3⟩ := listOr_isArr kPromotions mi
  apply metaOut_congr
  · unfold metaOut; rw [h1]; rfl
  · unfold metaOut; rw [h2]; rfl
  · unfold metaOut; rw [h3]; rfl
  · have : getD kCnc (.int 0) (metaOut cv mi n) = .int ((cv.pyInt (getD kCnc (.int 0) mi)).getD 0) := rfl
    rw [this, C.int_int]
    rfl

theorem rekeyW_metaOut (nodes es : List (Str × J W)) (mi : List (Str × J W)) (n : Nat) :
    rekeyW cv { nodes := nodes, edges := es, mta := metaOut cv mi n } =
      { nodes := nodes, edges := rekey cv es, mta := metaOut cv mi (rekey cv es).length } := rfl

theorem aget_lastUpdate_metaOut (mi : List (Str × J W)) (n : Nat) :
    aget kLastUpdate (metaOut cv mi n) = none := rfl

/-- shape of everything `write_snapshot` stores under `"gel"` (sanitised + re-keyed) -/
def CanonGel (o : WOps W) (cv : Cv W) (b : Bounds W) (G : Gel W) : Prop :=
  (keys G.nodes).Nodup ∧ CanonEdges o cv b G.edges ∧ ∃ mi, G.mta = metaOut cv mi G.edges.length

/-- shape of everything `_sanitize_gel_for_write` returns -/
def SanGel (o : WOps W) (cv : Cv W) (b : Bounds W) (S : Gel W) : Prop :=
  (keys S.nodes).Nodup ∧ SanEdges o b S.edges ∧ ∃ mi, S.mta = metaOut cv mi S.edges.length

theorem sanitizeW_san (hsw : ∀ w, sw o b (sw o b w) = sw o b w) {g : J W} {S : Gel W}
    (h : sanitizeW o cv b g = some S) : SanGel o cv b S := by
  unfold sanitizeW at h
  split at h
  · cases h
  · next mi _ =>
    cases h
    exact ⟨nodesOf_nodup g, edgesLoop_san hsw _ _ ⟨List.nodup_nil, nofun⟩, mi, rfl⟩

theorem canonW_canon (C : CvLaws cv) (hsw : ∀ w, sw o b (sw o b w) = sw o b w) {g : J W} {G : Gel W}
    (h : canonW o cv b g = some G) : CanonGel o cv b G := by
  unfold canonW at h
  cases hs : sanitizeW o cv b g with
  | none => rw [hs] at h; cases h
  | some S =>
    obtain ⟨hn, he, mi, hm⟩ := sanitizeW_san hsw hs
    have hS : S = ⟨S.nodes, S.edges, metaOut cv mi S.edges.length⟩ := by rw [← hm]
    rw [hs, hS, Option.map_some, rekeyW_metaOut] at h
    cases h
    exact ⟨hn, rekey_canon_aux C _ [] ⟨List.nodup_nil, nofun⟩ he.2 he.1, mi, rfl⟩

/-- Sanitising a graph whose nodes are a dictionary and whose meta block came out of `metaOut`:
nodes and meta are kept, the edges go through the edge loop once more. -/
theorem sanitizeW_toJ (C : CvLaws cv) {G : Gel W} (hn : (keys G.nodes).Nodup)
    {mi : List (Str × J W)} {n : Nat} (hm : G.mta = metaOut cv mi n) :
    sanitizeW o cv b G.toJ = some ⟨G.nodes, edgesLoop o cv b (G.edges.map Prod.snd) [],
      metaOut cv mi (edgesLoop o cv b (G.edges.map Prod.snd) []).length⟩ := by
  show some (Gel.mk (ofPairs G.nodes) _ (metaOut cv G.mta _)) = _
  rw [ofPairs_of_nodup hn, hm, metaOut_metaOut C]
  rfl

/-- **`_sanitize_gel_for_write` is idempotent** (on its own output, as a JSON value). -/
theorem sanitizeW_fix (C : CvLaws cv) {S : Gel W} (h : SanGel o cv b S) :
    sanitizeW o cv b S.toJ = some S := by
  obtain ⟨hn, he, mi, hm⟩ := h
  rw [sanitizeW_toJ C hn hm, edgesLoop_fix C he, ← hm]

/-- **`write_snapshot`'s gel section is a fixpoint of sanitise + re-key (write path)**. -/
theorem canonW_fix (C : CvLaws cv) {G : Gel W} (h : CanonGel o cv b G) :
    canonW o cv b G.toJ = some G := by
  obtain ⟨hn, he, mi, hm⟩ := h
  rw [canonW, sanitizeW_toJ C hn hm, Option.map_some, rekeyW_metaOut, (rekey_edgesLoop_fix C he).1,
    ← hm]

/-- … and of the load path: **loading what was written yields exactly what was written**. -/
theorem canonL_fix (C : CvLaws cv) {G : Gel W} (h : CanonGel o cv b G) :
    canonL o cv b G.toJ = some G := by
  obtain ⟨hn, he, mi, hm⟩ := h
  obtain ⟨hr, hl⟩ := rekey_edgesLoop_fix C he
  -- the `last_update` overlay finds `meta` in the written graph and no `last_update` in it
  have hmeta : aget kMeta [(kNodes, J.obj G.nodes), (kEdges, .obj G.edges), (kMeta, .obj G.mta)] =
      some (.obj G.mta) := rfl
  have hlu : aget kLastUpdate G.mta = none := hm ▸ aget_lastUpdate_metaOut mi _
  rw [canonL, sanitizeL, sanitizeW_toJ C hn hm]
  simp only [Gel.toJ, hmeta, hlu, Option.map_some, rekeyL, hr, hl, ← hm]

end GelLevel

section StoreRT
variable {W : Type} {o : WOps W} {cv : Cv W} {b : Bounds W}

/-- a three-part key is exported, and the exported item is read back as the entry it came from -/
theorem importItem_weightItem (C : CvLaws cv) {k : List Str} (v : W) (h : k.length = 3) :
    ∃ j, weightItem k v = some j ∧ importItem o cv j = some (k, v) :=
  match k, h with
  | [a, b', c], _ => by
    refine ⟨_, rfl, ?_⟩
    show (match cv.pyFloat (.num v) with
      | none => none
      | some v' => some ([cv.pyStr (.str a), cv.pyStr (.str b'), cv.pyStr (.str c)], v')) = _
    rw [C.float_num, C.str_str, C.str_str, C.str_str]

/-- importing the exported `.w` entries rebuilds the map, in order -/
theorem importLoop_export (C : CvLaws cv) (w acc : List (List Str × W))
    (h3 : ∀ p ∈ w, p.1.length = 3) (hn : (keys acc ++ keys w).Nodup) :
    importLoop o cv (w.filterMap (fun p => weightItem p.1 p.2)) acc = some (acc ++ w) := by
  induction w generalizing acc with
  | nil => exact congrArg some (List.append_nil acc).symm
  | cons p t ih =>
    obtain ⟨j, hj, hi⟩ := importItem_weightItem (o := o) C p.2 (h3 p List.mem_cons_self)
    obtain ⟨h1, h2⟩ := ainsert_fresh p.2 hn
    rw [List.filterMap_cons_some (f := fun p : List Str × W => weightItem p.1 p.2) hj, importLoop, hi]
    show importLoop o cv _ (ainsert p.1 p.2 acc) = _
    rw [h1, ih _ (fun q hq => h3 q (List.mem_cons_of_mem _ hq)) h2, List.append_assoc]
    rfl

/-- Which (written store, fresh store) pairs round-trip. -/
inductive StoreOk : Store W → Store W → Prop
  | abs : StoreOk .absent .absent
  | oth : StoreOk .other .other
  | opq (st st0 : J W) : StoreOk (.opaque st) (.opaque st0)
  | wm (w w0 : List (List Str × W)) : (∀ p ∈ w, p.1.length = 3) → (keys w).Nodup →
      StoreOk (.wmap w) (.wmap w0)

/-- **store weights / opaque store state are restored exactly** -/
theorem loadStore_export (C : CvLaws cv) {s fresh : Store W} (h : StoreOk s fresh) :
    (loadStore o cv fresh (some (exportStore s))).1 = s := by
  cases h with
  | abs => rfl
  | oth => rfl
  | opq st st0 => rfl
  | wm w w0 h3 hn =>
    show (match importLoop o cv (w.filterMap fun p : List Str × W => weightItem p.1 p.2) [] with
      | none => (Store.wmap w0, false)
      | some m => (.wmap m, true)).1 = .wmap w
    rw [importLoop_export C w [] h3 hn]
    rfl

end StoreRT

section Pick

/-- `firstMax` returns a member with maximal key, and nothing only on the empty list. -/
theorem firstMax_spec {α : Type} (key : α → Int) (l : List α) :
    match firstMax key l with
    | none => l = []
    | some a => a ∈ l ∧ ∀ x ∈ l, key x ≤ key a := by
  fun_induction firstMax key l with
  | case1 => rfl
  | case2 a t h ih =>
    rw [h] at ih; subst ih
    exact ⟨List.mem_cons_self, fun x hx => List.mem_singleton.1 hx ▸ Int.le_refl _⟩
  | case3 a t m h hlt ih =>
    rw [h] at ih
    exact ⟨List.mem_cons_of_mem _ ih.1, List.forall_mem_cons.2 ⟨Int.le_of_lt hlt, ih.2⟩⟩
  | case4 a t m h hlt ih =>
    rw [h] at ih
    exact ⟨List.mem_cons_self, List.forall_mem_cons.2
      ⟨Int.le_refl _, fun x hx => Int.le_trans (ih.2 x hx) (Int.not_lt.1 hlt)⟩⟩

theorem firstMax_some_of_ne_nil {α : Type} (key : α → Int) {l : List α} (h : l ≠ []) :
    ∃ a, firstMax key l = some a := by
  have := firstMax_spec key l
  cases hm : firstMax key l with
  | none => rw [hm] at this; exact absurd this h
  | some a => exact ⟨a, rfl⟩

/-- the pick among the members satisfying `p`: none of them, or one with maximal key -/
theorem firstMax_filter {α : Type} (key : α → Int) (p : α → Bool) (l : List α) :
    (firstMax key (l.filter p) = none ∧ ∀ x ∈ l, p x = false) ∨
    ∃ e, firstMax key (l.filter p) = some e ∧ e ∈ l ∧ p e = true ∧
      ∀ x ∈ l, p x = true → key x ≤ key e := by
  have := firstMax_spec key (l.filter p)
  cases h : firstMax key (l.filter p) with
  | none =>
    rw [h] at this
    refine .inl ⟨rfl, fun x hx => Bool.eq_false_iff.2 fun hp => ?_⟩
    have hm := List.mem_filter.2 ⟨hx, hp⟩
    rw [this] at hm; cases hm
  | some e =>
    rw [h] at this
    obtain ⟨hl, hp⟩ := List.mem_filter.1 this.1
    exact .inr ⟨e, rfl, hl, hp, fun x hx hpx => this.2 x (List.mem_filter.2 ⟨hx, hpx⟩)⟩

def isJson (e : Ent) : Bool := endsWith e.name sDotJson
def numOf (e : Ent) : Int := (natOfDigits (stemOf e.name) : Int)

/-- `pickLatest` as three attempts over the `.json` members -/
theorem pickLatest_eq (l : List Ent) : pickLatest l =
    match firstMax numOf ((l.filter isJson).filter fun e => isNumbered e.name) with
    | some e => some e.name
    | none =>
      match firstMax Ent.mtime ((l.filter isJson).filter fun e => startsWith e.name sStatePfx) with
      | some e => some e.name
      | none => (firstMax Ent.mtime (l.filter isJson)).map Ent.name := rfl

theorem pickLatest_cases (l : List Ent) :
    (∃ e, pickLatest l = some e.name ∧ e ∈ l ∧ isJson e = true ∧ isNumbered e.name = true ∧
        ∀ x ∈ l, isJson x = true → isNumbered x.name = true → numOf x ≤ numOf e) ∨
    ((∀ x ∈ l, isJson x = true → isNumbered x.name = false) ∧
      ∃ e, pickLatest l = some e.name ∧ e ∈ l ∧ isJson e = true ∧ startsWith e.name sStatePfx = true ∧
        ∀ x ∈ l, isJson x = true → startsWith x.name sStatePfx = true → x.mtime ≤ e.mtime) ∨
    ((∀ x ∈ l, isJson x = true → isNumbered x.name = false) ∧
      (∀ x ∈ l, isJson x = true → startsWith x.name sStatePfx = false) ∧
      ∃ e, pickLatest l = some e.name ∧ e ∈ l ∧ isJson e = true ∧
        ∀ x ∈ l, isJson x = true → x.mtime ≤ e.mtime) ∨
    (pickLatest l = none ∧ ∀ x ∈ l, isJson x = false) := by
  have mem : ∀ {x}, x ∈ l.filter isJson ↔ x ∈ l ∧ isJson x = true := List.mem_filter
  rcases firstMax_filter numOf (fun e => isNumbered e.name) (l.filter isJson) with
    ⟨h1, hnn⟩ | ⟨e, h1, hm, hnum, hmax⟩
  · have hnn' := fun x hx hj => hnn x (mem.2 ⟨hx, hj⟩)
    rcases firstMax_filter Ent.mtime (fun e => startsWith e.name sStatePfx) (l.filter isJson) with
      ⟨h2, hns⟩ | ⟨e, h2, hm, hst, hmax⟩
    · rcases firstMax_filter Ent.mtime isJson l with ⟨h3, hnj⟩ | ⟨e, h3, hm, hj, hmax⟩
      · exact .inr (.inr (.inr ⟨by rw [pickLatest_eq, h1, h2, h3]; rfl, hnj⟩))
      · exact .inr (.inr (.inl ⟨hnn', fun x hx hj => hns x (mem.2 ⟨hx, hj⟩), e,
          by rw [pickLatest_eq, h1, h2, h3]; rfl, hm, hj, hmax⟩))
    · exact .inr (.inl ⟨hnn', e, by rw [pickLatest_eq, h1, h2], (mem.1 hm).1, (mem.1 hm).2, hst,
        fun x hx hj => hmax x (mem.2 ⟨hx, hj⟩)⟩)
  · exact .inl ⟨e, by rw [pickLatest_eq, h1], (mem.1 hm).1, (mem.1 hm).2, hnum,
      fun x hx hj => hmax x (mem.2 ⟨hx, hj⟩)⟩

theorem pickLatest_mem (l : List Ent) :
    (∃ e ∈ l, pickLatest l = some e.name ∧ isJson e = true) ∨
    (pickLatest l = none ∧ ∀ x ∈ l, isJson x = false) := by
  rcases pickLatest_cases l with ⟨e, he, hm, hj, _⟩ | ⟨_, e, he, hm, hj, _⟩ |
    ⟨_, _, e, he, hm, hj, _⟩ | h
  · exact .inl ⟨e, hm, he, hj⟩
  · exact .inl ⟨e, hm, he, hj⟩
  · exact .inl ⟨e, hm, he, hj⟩
  · exact .inr h

/-- `state_…` is not `snap_…`: the two prefixes differ in their second character -/
theorem isNumbered_of_state {n : Str} (hs : startsWith n sStatePfx = true) : isNumbered n = false := by
  obtain ⟨t, rfl⟩ := List.isPrefixOf_iff_prefix.1 hs
  rfl

theorem drop_of_endsWith_json {n : Str} (h : endsWith n sDotJson = true) :
    n.drop (n.length - 5) = sDotJson :=
  eq_of_beq (Bool.and_eq_true_iff.1 h).2

theorem not_meta_of_json {n : Str} (h : endsWith n sDotJson = true) : endsWith n sDotMeta = false := by
  rw [endsWith, show n.drop (n.length - sDotMeta.length) = sDotJson from drop_of_endsWith_json h]
  exact Bool.and_false _

/-- A `.json` name is not an atomic-write temporary (`….XXXXXXXX` with no dot in the suffix): the
dot of `.json` sits among the last eight characters. -/
theorem not_temp_of_json {n : Str} (h : endsWith n sDotJson = true) : isAtomicTemp n = false := by
  have hmem : (n.drop (n.length - 8)).contains 46 = true := by
    refine List.contains_iff_mem.2 (List.mem_of_mem_drop (i := n.length - 5 - (n.length - 8)) ?_)
    rw [List.drop_drop, Nat.add_sub_cancel' (Nat.sub_le_sub_left (by decide) _), drop_of_endsWith_json h]
    exact List.mem_cons_self
  rw [isAtomicTemp, hmem]
  exact Bool.and_false _

end Pick

section Payload
variable {W : Type} {o : WOps W} {cv : Cv W} {b : Bounds W}

theorem payload_version (i : WriteIn W) :
    getD kVersionEtag .null (payloadKV o cv b i) = i.version := rfl
theorem payload_store (i : WriteIn W) :
    aget kStore (payloadKV o cv b i) = some (exportStore i.store) := rfl
theorem payload_snapGel (i : WriteIn W) :
    snapGelOf (payloadKV o cv b i) = (gelSection o cv b i).1.toJ := rfl
theorem orEmptyGel_toJ (G : Gel W) : orEmptyGel o G.toJ = G.toJ := rfl

theorem gelSection_of {i : WriteIn W} {G : Gel W} (h : canonW o cv b (graphState o i) = some G) :
    gelSection o cv b i = (G, true) := by unfold gelSection; rw [h]

/-! What `load_latest_snapshot` reads out of a body `write_snapshot` produced, field by field. -/

theorem load_payload (i : WriteIn W) (fresh : Store W) :
    loadFrom o cv b (payloadOf o cv b i) fresh = some (loadKV o cv b (payloadKV o cv b i) fresh) := rfl

theorem load_payload_graph (L : WLaws o b) (C : CvLaws cv) {i : WriteIn W} {G : Gel W}
    (h : canonW o cv b (graphState o i) = some G) (fresh : Store W) :
    (loadKV o cv b (payloadKV o cv b i) fresh).graph = G := by
  rw [loadKV, loadedGel, payload_snapGel, gelSection_of h, orEmptyGel_toJ,
    canonL_fix C (canonW_canon C (sw_idem L) h)]

theorem load_payload_ver (i : WriteIn W) (fresh : Store W) :
    (loadKV o cv b (payloadKV o cv b i) fresh).ver = i.version :=
  payload_version (o := o) (cv := cv) (b := b) i

theorem load_payload_version (i : WriteIn W) (fresh : Store W) :
    (loadKV o cv b (payloadKV o cv b i) fresh).version =
      if isNull i.version then none else some (cv.pyStr i.version) := by
  rw [loadKV, payload_version]

theorem load_payload_store (i : WriteIn W) (fresh : Store W) :
    (loadKV o cv b (payloadKV o cv b i) fresh).store =
      (loadStore o cv fresh (some (exportStore i.store))).1 := by
  rw [loadKV, payload_store]

/-- the hypotheses under which a state round-trips byte for byte -/
structure Stable (o : WOps W) (cv : Cv W) (b : Bounds W) (fresh : Store W) (i : WriteIn W) : Prop where
  version_str : ∃ v, i.version = .str v
  gel_ok : ∃ G, canonW o cv b (graphState o i) = some G
  store_ok : StoreOk i.store fresh

/-- write → load into a fresh state → the state the next write sees -/
def reload (o : WOps W) (cv : Cv W) (b : Bounds W) (fresh : Store W) (i : WriteIn W) : WriteIn W :=
  match loadFrom o cv b (payloadOf o cv b i) fresh with
  | some l => rewriteIn i l
  | none => i

/-- `n` write → load-into-fresh-state rounds -/
def reloadN (o : WOps W) (cv : Cv W) (b : Bounds W) (fresh : Store W) : Nat → WriteIn W → WriteIn W
  | 0, i => i
  | n + 1, i => reload o cv b fresh (reloadN o cv b fresh n i)

end Payload

end Clem.Snap
