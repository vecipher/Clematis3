import Clem.Model.CacheKeys
import Clem.Proofs.KeySuff
import Clem.Proofs.TtlLru

/-! Helper lemmas for C05: the TTL LRU (with its clock), the switched-off cache and the cache of
detached copies are cache semantics; `runOps` is `runCached`. -/
namespace Clem.CacheKeys
open Clem.KeySuff Clem.TtlLru

/-! ### `runOps` (driver) = `runCached` (theorems) -/

theorem runOps_eq {σ K V X : Type} (C : CacheSem σ K V) (key : X → K) (f : X → V) (es : List (Ev X)) (s : σ) :
    runOps (CacheOps.ofSem C) key f s es = runCached C key f s es := by
  induction es generalizing s with
  | nil => rfl
  | cons e es ih =>
    have hs : stepOps (CacheOps.ofSem C) key f s e = stepCached C key f s e := by cases e <;> rfl
    simp only [runOps, runCached, hs, ih]

/-- From a state that holds nothing the driver's run is transparent for a sufficient key. -/
theorem runOps_transparent_of_empty {σ K V X : Type} (C : CacheSem σ K V) (key : X → K) (f : X → V)
    (hs : Sufficient key f) (es : List (Ev X)) (s : σ) (h : ∀ k v, ¬ C.holds s k v) :
    runOps (CacheOps.ofSem C) key f s es = runUncached f es :=
  (runOps_eq C key f es s).trans
    (transparent_of_sufficient C key f hs es s (good_of_empty C key f s h))

def TtlHolds (s : TtlState) (k v : Nat) : Prop := ∃ e ∈ s.ns.items, e.key = k ∧ e.val = v

theorem ttl_get_hit (s : TtlState) (k v : Nat) (h : (ttlGet s k).2 = some v) : TtlHolds s k v := by
  unfold ttlGet at h
  rcases get_cases s.ns s.now k with ⟨_, hg⟩ | ⟨e, _, _, hg⟩ | ⟨e, he, _, hg⟩ <;> rw [hg] at h
  · cases h
  · cases h
  · exact ⟨e, (KeyedList.find?_some he).1, (KeyedList.find?_some he).2, Option.some.inj h⟩

theorem ttl_get_mono (s : TtlState) (k k' v' : Nat) (h : TtlHolds (ttlGet s k).1 k' v') : TtlHolds s k' v' := by
  obtain ⟨e', hm, hkv⟩ := h
  unfold ttlGet at hm
  rcases get_cases s.ns s.now k with ⟨_, hg⟩ | ⟨e, _, _, hg⟩ | ⟨e, he, _, hg⟩ <;> rw [hg] at hm
  · exact ⟨e', hm, hkv⟩
  · exact ⟨e', (List.mem_filter.mp hm).1, hkv⟩
  · rcases List.mem_append.mp hm with hm | hm
    · exact ⟨e', (List.mem_filter.mp hm).1, hkv⟩
    · exact ⟨e', List.mem_singleton.mp hm ▸ (KeyedList.find?_some he).1, hkv⟩

theorem ttl_put_mono (s : TtlState) (k v k' v' : Nat) (h : TtlHolds (ttlPut s k v) k' v') :
    TtlHolds s k' v' ∨ (k' = k ∧ v' = v) := by
  obtain ⟨e', hm, hk, hv⟩ := h
  -- the survivors of `set` are a suffix of the reinserted list
  have hm : e' ∈ (Ns.evictOver s.ns.max (without k s.ns.items ++ [⟨k, s.now, v⟩])).1 := hm
  rw [evictOver_eq] at hm
  rcases List.mem_append.mp (List.mem_of_mem_drop hm) with hm' | hm'
  · exact Or.inl ⟨e', (List.mem_filter.mp hm').1, hk, hv⟩
  · cases List.mem_singleton.mp hm'; exact Or.inr ⟨hk.symm, hv.symm⟩

theorem ttl_other_mono (s : TtlState) (t k' v' : Nat) (h : TtlHolds (ttlOther s t) k' v') : TtlHolds s k' v' := by
  unfold ttlOther at h
  by_cases h0 : t % 3 = 0
  · rw [if_pos h0] at h; obtain ⟨e, hm, _⟩ := h; cases hm
  · rw [if_neg h0] at h
    by_cases h1 : t % 3 = 1
    · rw [if_pos h1] at h; exact h
    · rw [if_neg h1] at h; exact h

/-- `_NamespaceCache` / `LRUCache` / a `CacheManager` namespace (any cap, any TTL, any clock behaviour,
invalidation at any time) is a cache semantics. -/
def ttlSem : CacheSem TtlState Nat Nat where
  get := ttlGet
  put := ttlPut
  other := ttlOther
  holds := TtlHolds
  get_hit := ttl_get_hit
  get_mono := ttl_get_mono
  put_mono := ttl_put_mono
  other_mono := ttl_other_mono

theorem ttlOps_eq : ttlOps = CacheOps.ofSem ttlSem := rfl

theorem bytesOps_eq (cost : Nat → Nat → Int) : bytesOps cost = CacheOps.ofSem (Clem.LruBytes.cacheSem cost) := rfl

/-- A cache that is switched off. -/
def offSem : CacheSem Unit Nat Nat where
  get := fun s _ => (s, none)
  put := fun s _ _ => s
  other := fun s _ => s
  holds := fun _ _ _ => False
  get_hit := by intro s k v h; simp at h
  get_mono := by intro s k k' v' h; exact h
  put_mono := by intro s k v k' v' h; exact Or.inl h
  other_mono := by intro s t k' v' h; exact h

theorem offOps_eq : offOps = CacheOps.ofSem offSem := rfl

/-! ### a cache that hands out detached copies is a cache semantics even when callers edit their results -/

def AHolds (s : AState) (k : Nat) (v : List Nat) : Prop := (k, v) ∈ s.store

def copySem : CacheSem AState Nat (List Nat) where
  get := aGet
  put := aPut
  other := aEditCopy
  holds := AHolds
  get_hit := by
    intro s k v h
    unfold aGet at h
    split at h
    · next p hp =>
      obtain ⟨hm, hk⟩ := KeyedList.find?_some (key := Prod.fst) hp
      cases h; exact hk ▸ hm
    · cases h
  get_mono := by
    intro s k k' v' h
    unfold aGet at h
    split at h <;> exact h
  put_mono := by
    intro s k v k' v' h
    simp only [AHolds, aPut, List.mem_cons, List.mem_filter] at h
    rcases h with h | h
    · exact Or.inr (by simpa using h)
    · exact Or.inl h.1
  other_mono := by intro s t k' v' h; exact h

theorem copyOps_eq : copyOps = CacheOps.ofSem copySem := rfl

end Clem.CacheKeys
