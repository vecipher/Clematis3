import Clem.Model.TtlLru
import Clem.Proofs.KeyedList

/-! The TTL LRU model (`_NamespaceCache`, `LRUCache`, `CacheManager`): the three outcomes of a read, the eviction
loops in closed form (`evictOver_eq`, `evictFront_eq`), and the namespace invariant along every operation. -/
namespace Clem.TtlLru

/-- Namespace invariant: unique keys; within capacity (for a non-negative cap). -/
def Ns.Inv (s : Ns) : Prop :=
  (s.items.map Entry.key).Nodup ∧ (0 ≤ s.max → (s.items.length : Int) ≤ s.max)

/-- Manager invariant: distinct namespace ids; every namespace satisfies its invariant and
carries the manager's settings. -/
def Mgr.Inv (m : Mgr) : Prop :=
  (m.nss.map (·.1)).Nodup ∧ ∀ p ∈ m.nss, Ns.Inv p.2 ∧ p.2.max = m.max ∧ p.2.ttl = m.ttl

theorem length_without_le (k : Nat) (l : List Entry) : (without k l).length ≤ l.length :=
  List.length_filter_le _ _

theorem lookup_none_without {k : Nat} {l : List Entry} (h : lookup k l = none) :
    without k l = l :=
  KeyedList.filter_eq_self (KeyedList.find?_eq_none.mp h)

/-- Dropping entries keeps the invariant (expiry on read, `items()` pruning). -/
theorem inv_filter (s : Ns) (p : Entry → Bool) (h : Ns.Inv s) :
    Ns.Inv { s with items := s.items.filter p } :=
  ⟨KeyedList.nodup_keys_filter p h.1, fun hm =>
    Int.le_trans (Int.ofNat_le.mpr (List.length_filter_le p s.items)) (h.2 hm)⟩

/-! ### The three outcomes of a read -/

/-- An entry is fresh when the TTL is off or its age is within the TTL. -/
theorem expired_eq_false_iff (ttl now ts : Int) :
    expired ttl now ts = false ↔ ttl = 0 ∨ now - ts ≤ ttl := by
  unfold expired
  rw [Bool.and_eq_false_iff, bne_eq_false_iff_eq, decide_eq_false_iff_not, Int.not_lt]

theorem expired_eq_true_iff (ttl now ts : Int) :
    expired ttl now ts = true ↔ ttl ≠ 0 ∧ ttl < now - ts := by
  unfold expired
  rw [Bool.and_eq_true, bne_iff_ne, decide_eq_true_eq]

section
variable {s : Ns} {now : Int} {k : Nat} {e : Entry}

theorem get_miss (h : lookup k s.items = none) : s.get now k = (s, none) := by
  unfold Ns.get; rw [h]

theorem get_expired (h : lookup k s.items = some e) (hx : expired s.ttl now e.ts = true) :
    s.get now k = ({ s with items := without k s.items }, none) := by
  unfold Ns.get; rw [h]; exact if_pos hx

theorem get_hit (h : lookup k s.items = some e) (hx : expired s.ttl now e.ts = false) :
    s.get now k = ({ s with items := without k s.items ++ [e] }, some e.val) := by
  unfold Ns.get; rw [h]; exact if_neg (Bool.eq_false_iff.mp hx)

/-- A read misses, finds an expired entry (and removes it), or hits (and moves the entry to the
MRU end). -/
theorem get_cases (s : Ns) (now : Int) (k : Nat) :
    (lookup k s.items = none ∧ s.get now k = (s, none)) ∨
    (∃ e, lookup k s.items = some e ∧ expired s.ttl now e.ts = true ∧
      s.get now k = ({ s with items := without k s.items }, none)) ∨
    (∃ e, lookup k s.items = some e ∧ expired s.ttl now e.ts = false ∧
      s.get now k = ({ s with items := without k s.items ++ [e] }, some e.val)) := by
  cases h : lookup k s.items with
  | none => exact .inl ⟨rfl, get_miss h⟩
  | some e =>
    cases hx : expired s.ttl now e.ts with
    | true => exact .inr (.inl ⟨e, rfl, hx, get_expired h hx⟩)
    | false => exact .inr (.inr ⟨e, rfl, hx, get_hit h hx⟩)

/-- `__contains__` has the same three outcomes, but a hit leaves the order alone. -/
theorem contains_cases (s : Ns) (now : Int) (k : Nat) :
    (lookup k s.items = none ∧ s.contains now k = (s, false)) ∨
    (∃ e, lookup k s.items = some e ∧ expired s.ttl now e.ts = true ∧
      s.contains now k = ({ s with items := without k s.items }, false)) ∨
    (∃ e, lookup k s.items = some e ∧ expired s.ttl now e.ts = false ∧
      s.contains now k = (s, true)) := by
  unfold Ns.contains
  cases lookup k s.items with
  | none => exact .inl ⟨rfl, rfl⟩
  | some e =>
    cases hx : expired s.ttl now e.ts with
    | true => exact .inr (.inl ⟨e, rfl, hx, if_pos hx⟩)
    | false => exact .inr (.inr ⟨e, rfl, hx, if_neg (Bool.eq_false_iff.mp hx)⟩)

end

/-! ### The eviction loop in closed form -/

/-- `_evict_over_cap` drops the `len - max` oldest entries (all of them for a negative cap). -/
theorem evictOver_eq (m : Int) (l : List Entry) :
    Ns.evictOver m l = (l.drop (l.length - m.toNat), l.length - m.toNat) := by
  induction l with
  | nil => rw [List.length_nil, Nat.zero_sub]; rfl
  | cons e es ih =>
    unfold Ns.evictOver
    rw [List.length_cons]
    split
    · next h =>
      rw [ih, Nat.succ_sub (Nat.le_of_lt_succ ((Int.toNat_lt' (Nat.succ_pos _)).mpr h))]; rfl
    · next h =>
      rw [Nat.sub_eq_zero_of_le
        (Nat.le_of_not_lt fun h' => h ((Int.toNat_lt' (Nat.succ_pos _)).mp h'))]
      rfl

/-- Nothing is evicted when the list fits. -/
theorem evictOver_fits (m : Int) (l : List Entry) (h : (l.length : Int) ≤ m) :
    Ns.evictOver m l = (l, 0) := by
  rw [evictOver_eq, Nat.sub_eq_zero_of_le (Int.le_toNat (Int.le_trans (Int.natCast_nonneg _) h) |>.mpr h)]
  rfl

/-- The survivors fit a non-negative cap. -/
theorem evictOver_length_le (m : Int) (l : List Entry) (hm : 0 ≤ m) :
    ((Ns.evictOver m l).1.length : Int) ≤ m := by
  rw [evictOver_eq, List.length_drop]
  exact (Int.le_toNat hm).mp (Nat.sub_le_iff_le_add'.mpr (Nat.le_add_of_sub_le (Nat.le_refl _)))

/-- With a cap of at least one the last element always survives. -/
theorem evictOver_keeps_last (m : Int) (hm : 1 ≤ m) (p : List Entry) (x : Entry) :
    ∃ p', (Ns.evictOver m (p ++ [x])).1 = p' ++ [x] := by
  rw [evictOver_eq]
  refine ⟨p.drop ((p ++ [x]).length - m.toNat), List.drop_append_of_le_length ?_⟩
  rw [List.length_append]
  exact Nat.sub_le_of_le_add (Nat.add_le_add_left ((Int.le_toNat (by omega)).mpr hm) _)

/-! ### Manager plumbing: `nss` is an association list -/

theorem find_cons (b : Nat) (p : Nat × Ns) (ps : List (Nat × Ns)) :
    Mgr.find b (p :: ps) = if p.1 = b then some p.2 else Mgr.find b ps := by
  unfold Mgr.find
  rw [List.find?_cons]
  by_cases h : p.1 = b
  · rw [if_pos h, beq_iff_eq.mpr h]; rfl
  · rw [if_neg h, beq_false_of_ne h]

theorem find_store (a b : Nat) (c : Ns) (l : List (Nat × Ns)) :
    Mgr.find b (Mgr.store a c l) = if a = b then some c else Mgr.find b l := by
  induction l with
  | nil => exact find_cons b (a, c) []
  | cons p ps ih =>
    show Mgr.find b (if p.1 == a then (a, c) :: ps else p :: Mgr.store a c ps) = _
    by_cases hp : p.1 = a
    · rw [if_pos (beq_iff_eq.mpr hp), find_cons, find_cons, hp]
      by_cases h : a = b
      · rw [if_pos h, if_pos h]
      · rw [if_neg h, if_neg h, if_neg h]
    · rw [if_neg (mt beq_iff_eq.mp hp), find_cons, find_cons, ih]
      by_cases hb : p.1 = b
      · rw [if_pos hb, if_neg fun h => hp (hb.trans h.symm), if_pos hb]
      · rw [if_neg hb, if_neg hb]

theorem mem_store {n : Nat} {c : Ns} {l : List (Nat × Ns)} {p : Nat × Ns}
    (h : p ∈ Mgr.store n c l) : p = (n, c) ∨ p ∈ l := by
  induction l with
  | nil => exact Or.inl (List.mem_singleton.mp h)
  | cons q qs ih =>
    unfold Mgr.store at h
    split at h
    · exact (List.mem_cons.mp h).imp_right (List.mem_cons_of_mem _)
    · rcases List.mem_cons.mp h with h | h
      · exact Or.inr (h ▸ List.mem_cons_self)
      · exact (ih h).imp_right (List.mem_cons_of_mem _)

theorem store_keys_nodup (n : Nat) (c : Ns) {l : List (Nat × Ns)} (h : (l.map (·.1)).Nodup) :
    ((Mgr.store n c l).map (·.1)).Nodup := by
  induction l with
  | nil => exact List.nodup_cons.mpr ⟨List.not_mem_nil, List.nodup_nil⟩
  | cons p ps ih =>
    rw [List.map_cons, List.nodup_cons] at h
    unfold Mgr.store
    split
    · next hp => rw [List.map_cons, List.nodup_cons, ← eq_of_beq hp]; exact h
    · next hp =>
      rw [List.map_cons, List.nodup_cons]
      refine ⟨fun hm => ?_, ih h.2⟩
      obtain ⟨q, hq, hqp⟩ := List.mem_map.mp hm
      rcases mem_store hq with rfl | hq
      · exact hp (beq_iff_eq.mpr hqp.symm)
      · exact h.1 (hqp ▸ List.mem_map_of_mem hq)

/-! ### The shim and the manager wrap a namespace operation and bump counters

A `get` returns the namespace's answer and adds one to exactly one of `hits`, `misses`; a `set`
returns the namespace's answer and touches only `evicted`. -/

theorem lru_get_eq (c : Lru) (now : Int) (k : Nat) :
    ∃ h mi, c.get now k = ({ c with ns := (c.ns.get now k).1, hits := h, misses := mi },
      (c.ns.get now k).2) ∧ h + mi = c.hits + c.misses + 1 := by
  unfold Lru.get; generalize c.ns.get now k = r
  obtain ⟨_, _ | _⟩ := r
  · exact ⟨_, _, rfl, rfl⟩
  · exact ⟨_, _, rfl, Nat.add_right_comm _ _ _⟩

theorem lru_set_eq (c : Lru) (now : Int) (k v : Nat) :
    ∃ ev, c.set now k v = ({ c with ns := (c.ns.set now k v).1, evicted := ev },
      (c.ns.set now k v).2) := by
  unfold Lru.set; generalize c.ns.set now k v = r
  obtain ⟨_, _ | _⟩ := r <;> exact ⟨_, rfl⟩

theorem mgr_get_eq (m : Mgr) (n : Nat) (now : Int) (k : Nat) :
    ∃ h mi, m.get n now k =
      ({ m with nss := Mgr.store n ((m.nsObj n).get now k).1 m.nss, hits := h, misses := mi },
        ((m.nsObj n).get now k).2) ∧ h + mi = m.hits + m.misses + 1 := by
  unfold Mgr.get; generalize (m.nsObj n).get now k = r
  obtain ⟨_, _ | _⟩ := r
  · exact ⟨_, _, rfl, rfl⟩
  · exact ⟨_, _, rfl, Nat.add_right_comm _ _ _⟩

theorem mgr_set_eq (m : Mgr) (n : Nat) (now : Int) (k v : Nat) :
    ∃ ev, m.set n now k v =
      ({ m with nss := Mgr.store n ((m.nsObj n).set now k v).1 m.nss, evicted := ev },
        ((m.nsObj n).set now k v).2) := by
  unfold Mgr.set; generalize (m.nsObj n).set now k v = r
  obtain ⟨_, _ | _⟩ := r <;> exact ⟨_, rfl⟩

/-! ### The namespace of the `LRUCache` shim evolves on its own; the shim only adds counters -/

def nsStep (s : Ns) : Op → Ns
  | .get now k => (s.get now k).1
  | .set now k v => (s.set now k v).1
  | .contains now k => (s.contains now k).1
  | .items now => s.prune now
  | .invalidate => s.invalidate.1

theorem step_ns (c : Lru) (op : Op) : (c.step op).ns = nsStep c.ns op := by
  cases op with
  | get now k => obtain ⟨_, _, e, _⟩ := lru_get_eq c now k; exact congrArg (·.1.ns) e
  | set now k v => obtain ⟨_, e⟩ := lru_set_eq c now k v; exact congrArg (·.1.ns) e
  | _ => rfl

theorem run_ns (c : Lru) (ops : List Op) : (Lru.run c ops).ns = ops.foldl nsStep c.ns :=
  (List.foldl_hom Lru.ns fun c op => (step_ns c op).symm).symm

theorem ns_get_settings (s : Ns) (now : Int) (k : Nat) :
    (s.get now k).1.max = s.max ∧ (s.get now k).1.ttl = s.ttl := by
  rcases get_cases s now k with ⟨_, hg⟩ | ⟨e, _, _, hg⟩ | ⟨e, _, _, hg⟩ <;> rw [hg] <;> exact ⟨rfl, rfl⟩

/-- No operation changes the cap or the TTL. -/
theorem nsStep_settings (s : Ns) (op : Op) :
    (nsStep s op).max = s.max ∧ (nsStep s op).ttl = s.ttl := by
  cases op with
  | get now k => exact ns_get_settings s now k
  | contains now k =>
    show (s.contains now k).1.max = s.max ∧ (s.contains now k).1.ttl = s.ttl
    rcases contains_cases s now k with ⟨_, hc⟩ | ⟨e, _, _, hc⟩ | ⟨e, _, _, hc⟩ <;> rw [hc] <;>
      exact ⟨rfl, rfl⟩
  | _ => exact ⟨rfl, rfl⟩

/-! ### "No completed put is lost" -/

/-- Specification of the visible values after a sequence of operations: every `set k v`
overrides the value of `k`; nothing else changes any value (no invalidation, TTL off). -/
def applySets (f : Nat → Option Nat) : List Op → Nat → Option Nat
  | [] => f
  | .set _ k v :: ops => applySets (fun x => if x = k then some v else f x) ops
  | _ :: ops => applySets f ops

/-- The value a namespace holds for `k`. -/
def Ns.valOf (s : Ns) (k : Nat) : Option Nat := (lookup k s.items).map (·.val)

/-- (Re)inserting `e` at the MRU end makes `e.val` the value of `e.key` and changes no other. -/
theorem valOf_reinsert {s t : Ns} {e : Entry} (h : t.items = without e.key s.items ++ [e])
    (x : Nat) : t.valOf x = if x = e.key then some e.val else s.valOf x := by
  unfold Ns.valOf lookup
  rw [h]; unfold without
  rw [KeyedList.find?_reinsert rfl]
  split <;> rfl

/-- State invariant of the no-put-lost argument (`C15_ttl_no_put_lost_step`): TTL off, cap `max`,
all keys within the key universe `K`. -/
def NoLossInv (max : Int) (K : List Nat) (c : Lru) : Prop :=
  Ns.Inv c.ns ∧ c.ns.ttl = 0 ∧ c.ns.max = max ∧ ∀ e ∈ c.ns.items, e.key ∈ K

end Clem.TtlLru
