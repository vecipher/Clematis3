import Clem.Proofs.GelNum
import Clem.Proofs.GelPromo

/-! The decay step: the survivors are the edges not below the floor, in order, each replaced by its
decayed image `decayEdge` (any carrier); over an ordered field the relational specification
`tickSpecB` is read off that form. -/
namespace Clem.Gel
open Clem.Py

theorem length_filter_add_not {β : Type} (p : β → Bool) (l : List β) :
    (l.filter p).length + (l.filter (fun x => !p x)).length = l.length := by
  have h := List.length_eq_countP_add_countP p (l := l)
  simp only [Bool.not_eq_true, Bool.decide_eq_false, List.countP_eq_length_filter] at h
  exact h.symm

section AnyCarrier
variable {α : Type} [NumGel α]

/-- what `tickEdge` makes of an edge it keeps -/
def decayEdge (f : α) (turn : Option Int) (e : Edge α) : Edge α :=
  { e with w := if NumGel.eq (NumGel.mul e.w f) e.w then e.w else NumGel.mul e.w f
           lst := match turn with
             | some t => if lstIsNone e.lst then .at t else e.lst
             | none => e.lst }

theorem tickEdge_eq (f floor : α) (turn : Option Int) (e : Edge α) :
    tickEdge f floor turn e = if below f floor e then none else some (decayEdge f turn e) := rfl

theorem filterMap_tickEdge (f floor : α) (turn : Option Int) (es : List (Edge α)) :
    es.filterMap (tickEdge f floor turn)
      = (es.filter (fun e => !(below f floor e))).map (decayEdge f turn) := by
  induction es with
  | nil => rfl
  | cons e es ih =>
    rw [List.filterMap_cons, List.filter_cons, tickEdge_eq, ih]
    cases below f floor e <;> rfl

theorem mem_filterMap_tickEdge {f floor : α} {turn : Option Int} {es : List (Edge α)} {e' : Edge α}
    (h : e' ∈ es.filterMap (tickEdge f floor turn)) : ∃ e ∈ es, decayEdge f turn e = e' := by
  rw [filterMap_tickEdge] at h
  obtain ⟨e, he, rfl⟩ := List.mem_map.1 h
  exact ⟨e, (List.mem_filter.1 he).1, rfl⟩

/-- An enabled tick on the edge list and the metrics; the early return on an empty edge dict agrees
with the general case. -/
theorem tick_enabled (c : Cfg α) (pw : α → α → α) (s : State α) (dt : Int) (turn : Option Int)
    (hen : c.enabled = true) :
    edgesOf (tick c pw s dt turn).1
      = (edgesOf s).filterMap (tickEdge (decayFactor c pw dt) c.floor turn) ∧
    (tick c pw s dt turn).2
      = ⟨((edgesOf s).filter (tickChanged (decayFactor c pw dt) c.floor)).length,
         ((edgesOf s).filter (below (decayFactor c pw dt) c.floor)).length⟩ := by
  simp only [tick, hen, Bool.not_true, Bool.false_eq_true, if_false]
  split
  · rename_i hemp
    have h0 : edgesOf s = [] := List.isEmpty_iff.1 hemp
    rw [h0]; exact ⟨h0, rfl⟩
  · exact ⟨rfl, rfl⟩

end AnyCarrier

set_option linter.unusedSectionVars false
variable {α : Type} [Field α] [LinearOrder α] [IsStrictOrderedRing α]

theorem decay_abs_le {w f : α} (hf0 : 0 ≤ f) (hf1 : f ≤ 1) : |w * f| ≤ |w| := by
  rw [abs_mul, abs_of_nonneg hf0]
  exact mul_le_of_le_one_right (abs_nonneg w) hf1

/-- The old weight is kept only where it equals the decayed one. -/
theorem decayEdge_w (f : α) (turn : Option Int) (e : Edge α) : (decayEdge f turn e).w = e.w * f :=
  ite_eq_right_iff.2 fun h => (of_decide_eq_true h).symm

theorem tickSpec_holds (f floor : α) (hf0 : 0 ≤ f) (hf1 : f ≤ 1) (turn : Option Int)
    (es : List (Edge α)) :
    tickSpecB f floor es (es.filterMap (tickEdge f floor turn))
      ⟨(es.filter (tickChanged f floor)).length, (es.filter (below f floor)).length⟩ = true := by
  rw [filterMap_tickEdge]
  unfold tickSpecB
  simp only [Bool.and_eq_true, beq_iff_eq, decide_eq_true_eq, List.length_map]
  refine ⟨⟨⟨?_, ?_⟩, ?_⟩, ?_⟩
  · rw [List.map_map]; rfl
  · rw [← List.map_prod_left_eq_zip, List.all_map, List.all_eq_true]
    intro e _
    simp only [Function.comp, num_le, num_abs, decayEdge_w, Bool.and_eq_true, decide_eq_true_eq]
    exact ⟨⟨⟨⟨decay_abs_le hf0 hf1, beq_iff_eq.mpr rfl⟩, beq_iff_eq.mpr rfl⟩, beq_iff_eq.mpr rfl⟩,
      beq_iff_eq.mpr rfl⟩
  · exact length_filter_add_not _ es
  · rw [← List.countP_eq_length_filter, ← List.countP_eq_length_filter]
    exact List.countP_mono_left fun e _ h => (Bool.and_eq_true_iff.1 h).1

end Clem.Gel
