import Clem.Proofs.T4
import Mathlib.Data.List.Perm.Basic
import Mathlib.Data.List.Nodup

/-!
Order-independence of `_combine_by_ckey` (repaired: contributions summed in sorted order).
Needs NO arithmetic law: only that the carrier's `≤` (the one `sorted` uses) is a total order on the
values at hand — true of IEEE floats without NaN (up to the sign of zero) — and injective string keys.
-/

namespace Clem.T4
open Clem.Py

theorem minOpt_none_left (x : Option Int) : minOpt none x = x := by cases x <;> rfl

/-- `_min_optional_int` is `min` with `None` as the neutral element (on two `some`s it unfolds to
`some (min a b)`), so folding it is order-independent -/
instance : RightCommutative minOpt where
  right_comm a b c := by
    rcases a with _ | a <;> rcases b with _ | b <;> rcases c with _ | c <;> try rfl
    · exact congrArg some (min_comm b c)
    · exact congrArg some (min_right_comm a b c)

variable {α : Type}

theorem delta_ext {a b : Delta α} (h1 : a.kind = b.kind) (h2 : a.id = b.id) (h3 : a.attr = b.attr)
    (h4 : a.delta = b.delta) (h5 : a.opIdx = b.opIdx) (h6 : a.idx = b.idx) : a = b := by
  cases a; cases b; simp_all

/-- Same string key ⇒ same target: no two distinct targets share `f"{kind}:{id}:{attr}"`. -/
def CkeyInjective (ds : List (Delta α)) : Prop :=
  ∀ a ∈ ds, ∀ b ∈ ds, ckey a = ckey b → a.kind = b.kind ∧ a.id = b.id ∧ a.attr = b.attr

/-! ### the repaired `_canonical_key` is injective in the target -/

theorem enc_sep_inj {x y r r' : Str} (h : enc x ++ 0 :: r = enc y ++ 0 :: r') : x = y ∧ r = r' := by
  induction x generalizing y with
  | nil =>
    cases y with
    | nil => exact ⟨rfl, (List.cons.inj h).2⟩
    | cons c ys => exact absurd (List.cons.inj h).1 (Nat.succ_ne_zero c).symm
  | cons c xs ih =>
    cases y with
    | nil => exact absurd (List.cons.inj h).1 (Nat.succ_ne_zero c)
    | cons c' ys =>
      obtain ⟨e, hr⟩ := ih (List.cons.inj h).2
      exact ⟨by rw [Nat.succ.inj (List.cons.inj h).1, e], hr⟩

/-- distinct targets never share a key (`C03:t4:order.ckey-collision`, fixed) -/
theorem ckey_inj {a b : Delta α} (h : ckey a = ckey b) :
    a.kind = b.kind ∧ a.id = b.id ∧ a.attr = b.attr := by
  unfold ckey at h
  obtain ⟨_, h1⟩ := enc_sep_inj h
  obtain ⟨hk, h2⟩ := enc_sep_inj h1
  obtain ⟨hi, h3⟩ := enc_sep_inj h2
  exact ⟨hk, hi, (enc_sep_inj (r := []) (r' := []) (congrArg (· ++ [0]) h3)).1⟩

theorem ckeyInjective_all (ds : List (Delta α)) : CkeyInjective ds :=
  fun _ _ _ _ h => ckey_inj h

/-- The carrier's `≤` is a total order (what `sorted` needs for a canonical result).  Holds at every
ordered field; at `Float` it holds on NaN-free values up to the sign of zero. -/
structure LeTotalOrder (α : Type) [Num α] : Prop where
  total : ∀ a b : α, Num.le a b = true ∨ Num.le b a = true
  trans : ∀ a b c : α, Num.le a b = true → Num.le b c = true → Num.le a c = true
  antisymm : ∀ a b : α, Num.le a b = true → Num.le b a = true → a = b

section AnyCarrier
variable [Num α]

theorem sumSorted_perm (ho : LeTotalOrder α) {vs vs' : List α} (hp : vs.Perm vs') :
    sumSorted vs = sumSorted vs' := by
  unfold sumSorted
  rw [isort_perm_invariant Num.le ho.total ho.trans hp (fun a _ b _ => ho.antisymm a b)]

/-- the merged entry as a function of the whole group `g` and its first element `d` -/
def aggC (g : List (Delta α)) (d : Delta α) : Delta α :=
  ⟨d.kind, d.id, d.attr, sumSorted (g.map (·.delta)), (g.map (·.opIdx)).foldl minOpt none,
   (g.map (·.idx)).foldl minOpt none⟩

/-- an entry of the merged list, before the final sort, is the aggregate of its key's group -/
theorem mem_combineC {ds : List (Delta α)} {e : Delta α} (he : e ∈ combineC ds) :
    ∃ d rest, grp (ckey d) ds = d :: rest ∧ e = aggC (d :: rest) d := by
  obtain ⟨d, rest, hg, h1, h2, h3, h4, h5, h6⟩ := mem_combineC_spec he
  have hk := (mem_of_grp_eq_cons hg).2
  rw [← hk] at hg h4
  refine ⟨d, rest, hg, delta_ext h1 h2 h3 ?_ ?_ ?_⟩
  · show e.delta = sumSorted ((d :: rest).map (·.delta))
    rw [h4, ← hg]; rfl
  · exact h5.trans (by simp [aggC, List.foldl_map, minOpt_none_left])
  · exact h6.trans (by simp [aggC, List.foldl_map, minOpt_none_left])

theorem aggC_perm (ho : LeTotalOrder α) {g g' : List (Delta α)} (hp : g.Perm g') {d d' : Delta α}
    (hk : d.kind = d'.kind) (hi : d.id = d'.id) (ha : d.attr = d'.attr) : aggC g d = aggC g' d' := by
  refine delta_ext hk hi ha ?_ ?_ ?_
  · exact sumSorted_perm ho (hp.map _)
  · exact (hp.map _).foldl_eq none
  · exact (hp.map _).foldl_eq none

theorem combineC_mem_of_perm (ho : LeTotalOrder α) {ds ds' : List (Delta α)} (hp : ds.Perm ds')
    {e : Delta α} (he : e ∈ combineC ds) : e ∈ combineC ds' := by
  obtain ⟨d, rest, hg, rfl⟩ := mem_combineC he
  have hk : ckey d ∈ (combineC ds').map ckey :=
    keys_combineC ds' ▸ (mem_keys_combineAcc ds' _).2
      (List.mem_map_of_mem (hp.subset (mem_of_grp_eq_cons hg).1))
  obtain ⟨e', he', hke'⟩ := List.mem_map.1 hk
  obtain ⟨d', rest', hg', rfl⟩ := mem_combineC he'
  have hkd' : ckey d' = ckey d := hke'
  obtain ⟨t1, t2, t3⟩ := ckey_inj hkd'
  have hgp : (d' :: rest').Perm (d :: rest) := by
    rw [← hg, ← hg', hkd']; exact (hp.filter _).symm
  exact aggC_perm ho hgp t1 t2 t3 ▸ he'

theorem combineC_perm (ho : LeTotalOrder α) {ds ds' : List (Delta α)} (hp : ds.Perm ds') :
    (combineC ds).Perm (combineC ds') := by
  rw [List.perm_ext_iff_of_nodup (List.Nodup.of_map _ (nodup_keys_combineC ds))
    (List.Nodup.of_map _ (nodup_keys_combineC ds'))]
  exact fun e => ⟨combineC_mem_of_perm ho hp, combineC_mem_of_perm ho hp.symm⟩

/-- `_combine_by_ckey` does not depend on the listing order: injective keys + a totally ordered
carrier; no associativity, no exact arithmetic. -/
theorem combine_perm_invariant (ho : LeTotalOrder α) {ds ds' : List (Delta α)} (hp : ds.Perm ds') :
    combine ds = combine ds' := by
  show isort ckeyLe (combineC ds) = isort ckeyLe (combineC ds')
  refine isort_perm_invariant ckeyLe (fun a b => lexLe_total _ _) (fun _ _ _ => lexLe_trans)
    (combineC_perm ho hp) ?_
  intro a ha b hb h1 h2
  exact List.inj_on_of_nodup_map (nodup_keys_combineC ds) ha hb (lexLe_antisymm h1 h2)

end AnyCarrier

theorem leTotalOrder_field [Field α] [LinearOrder α] : LeTotalOrder α where
  total a b := (le_total a b).imp decide_eq_true decide_eq_true
  trans _ _ _ h1 h2 := decide_eq_true ((of_decide_eq_true h1).trans (of_decide_eq_true h2))
  antisymm _ _ h1 h2 := le_antisymm (of_decide_eq_true h1) (of_decide_eq_true h2)

end Clem.T4
