import Clem.Model.T1
import Clem.Proofs.Sort
import Clem.Proofs.KeyedList

/-!
Helper lemmas for C12 (T1 propagation): the list-level facts about the accumulator, the distance map
and the heap.
Everything is for an arbitrary carrier `[Num α]` (no algebraic laws), hence holds for `Float`.
-/

namespace Clem.T1
open Num

variable {α : Type} [Num α]
set_option linter.unusedSectionVars false

@[simp] theorem popped_stop (st : St α) (it : Item α) (rest : List (Item α)) :
    (popped st it rest).stop = st.stop := rfl

/-! ## accumulator (`defaultdict(float)` as an insertion-ordered association list) -/

/-- `List.lookup` at natural-number keys, with `=` in place of `==` -/
theorem lookup_cons_eq {β : Type} (k a : Nat) (b : β) (es : List (Nat × β)) :
    ((k, b) :: es).lookup a = if a = k then some b else es.lookup a := by
  rw [List.lookup_cons]
  by_cases h : a = k
  · rw [if_pos h, beq_iff_eq.2 h]
  · rw [if_neg h, beq_eq_false_iff_ne.2 h]

theorem accGet_accAdd (acc : List (Nat × α)) (v v' : Nat) (x : α) :
    accGet (accAdd acc v x) v' = if v' = v then add (accGet acc v) x else accGet acc v' := by
  unfold accGet
  induction acc with
  | nil =>
    rw [accAdd, lookup_cons_eq]
    by_cases h : v' = v
    · rw [if_pos h, if_pos h]; rfl
    · rw [if_neg h, if_neg h]
  | cons p r ih =>
    obtain ⟨k, y⟩ := p
    rw [accAdd]
    by_cases hk : k = v
    · subst hk
      rw [if_pos rfl]
      by_cases h : v' = k <;> simp only [lookup_cons_eq, h, ↓reduceIte, Option.getD_some]
    · rw [if_neg hk]
      by_cases h : v' = k
      · simp only [lookup_cons_eq, h, hk, ↓reduceIte]
      · simp only [lookup_cons_eq, h, Ne.symm hk, ↓reduceIte]; exact ih
theorem accAdd_keys (acc : List (Nat × α)) (v : Nat) (x : α) :
    (accAdd acc v x).map (·.1) =
      if v ∈ acc.map (·.1) then acc.map (·.1) else acc.map (·.1) ++ [v] := by
  induction acc with
  | nil => rfl
  | cons p r ih =>
    simp only [accAdd, List.map_cons, List.mem_cons]
    split
    · rename_i hk; rw [if_pos (Or.inl hk.symm)]; rfl
    · rename_i hk
      rw [List.map_cons, ih]
      split
      · rename_i hm; rw [if_pos (Or.inr hm)]
      · rename_i hm; rw [if_neg (fun h => h.elim (fun e => hk e.symm) hm)]; rfl

theorem accAdd_nodup (acc : List (Nat × α)) (v : Nat) (x : α) (h : (acc.map (·.1)).Nodup) :
    ((accAdd acc v x).map (·.1)).Nodup := by
  rw [accAdd_keys]
  exact KeyedList.nodup_ite_snoc h

theorem mem_accAdd_keys (acc : List (Nat × α)) (v : Nat) (x : α) (k : Nat) :
    k ∈ (accAdd acc v x).map (·.1) ↔ k ∈ acc.map (·.1) ∨ k = v := by
  rw [accAdd_keys]
  exact KeyedList.mem_ite_snoc

theorem lookup_distSet (l : List (Nat × Nat)) (v d v' : Nat) :
    (distSet l v d).lookup v' = if v' = v then some d else l.lookup v' := by
  induction l with
  | nil => exact lookup_cons_eq v v' d []
  | cons p r ih =>
    obtain ⟨k, y⟩ := p
    rw [distSet, lookup_cons_eq]
    by_cases hk : k = v
    · rw [if_pos hk, lookup_cons_eq, hk]
      by_cases h : v' = v
      · rw [if_pos h, if_pos h]
      · rw [if_neg h, if_neg h, if_neg h]
    · rw [if_neg hk, lookup_cons_eq, ih]
      by_cases h : v' = k
      · rw [if_pos h, if_pos h, if_neg (h ▸ hk)]
      · rw [if_neg h, if_neg h]
/-- `distSet` gives `v` the entry `d` and changes no other entry -/
theorem distSet_touch (l : List (Nat × Nat)) (v d : Nat) :
    ((distSet l v d).lookup v).isSome ∧
      ∀ v', (distSet l v d).lookup v' = l.lookup v' ∨ v' = v ∧ (distSet l v d).lookup v' = some d := by
  refine ⟨by rw [lookup_distSet, if_pos rfl]; rfl, fun v' => ?_⟩
  rw [lookup_distSet]
  by_cases h : v' = v
  · exact .inr ⟨h, if_pos h⟩
  · exact .inl (if_neg h)

/-- after `distRelax` the node `v` has an entry, the old one or `d`; no other entry changes -/
theorem distRelax_touch (l : List (Nat × Nat)) (v d : Nat) :
    ((distRelax l v d).lookup v).isSome ∧
      ∀ v', (distRelax l v d).lookup v' = l.lookup v' ∨ v' = v ∧ (distRelax l v d).lookup v' = some d := by
  unfold distRelax
  split
  · exact distSet_touch l v d
  · rename_i old ho
    split
    · exact distSet_touch l v d
    · exact ⟨by rw [ho]; rfl, fun _ => .inl rfl⟩

theorem popMinAux_perm (m : Item α) (l : List (Item α)) :
    ((popMinAux m l).1 :: (popMinAux m l).2).Perm (m :: l) := by
  induction l generalizing m with
  | nil => exact .refl _
  | cons a l ih =>
    rw [popMinAux]
    split
    · exact (List.Perm.swap _ _ _).trans ((ih a).cons m)
    · exact ((List.Perm.swap _ _ _).trans ((ih m).cons a)).trans (.swap _ _ _)

/-- a pop takes one item out of the queue -/
theorem popMin_perm {pq : List (Item α)} {it : Item α} {rest : List (Item α)}
    (h : popMin pq = some (it, rest)) : (it :: rest).Perm pq := by
  cases pq with
  | nil => cases h
  | cons a l =>
    have := popMinAux_perm a l
    rwa [Option.some.inj h] at this

theorem mem_pushCap (fc : Option Int) (pq : List (Item α)) (it x : Item α)
    (h : x ∈ (pushCap fc pq it).1) : x = it ∨ x ∈ pq := by
  unfold pushCap at h
  split at h
  · simpa using h
  · split at h
    · have := List.mem_of_mem_take h
      rw [Clem.Py.mem_isort] at this
      simpa using this
    · simpa using h

end Clem.T1
