/-
The edge dict of the GEL model (`Clem/Model/Gel.lean`): what `upsert` does to membership, lookup, keys
and counts, and what promotion makes of it (its own edges end up attached; a second run changes nothing).
Carrier-generic: none of the model definitions used here elaborates with a `NumGel α` argument
(Lean only includes the section instance where it is used), so no instance is assumed.
-/
import Clem.Model.Gel
import Clem.Proofs.Fold

namespace Clem.Gel
open Clem.Py

variable {α : Type}

section Upsert
variable {k : Str} {f : Edge α → Edge α} {d : Edge α} {es : List (Edge α)}

theorem findEdge_cons (k : Str) (e : Edge α) (es : List (Edge α)) :
    findEdge k (e :: es) = if e.key == k then some e else findEdge k es := by
  rw [findEdge, List.find?_cons]; cases e.key == k <;> rfl

theorem mem_upsert {e' : Edge α} (h : e' ∈ upsert k f d es) :
    e' ∈ es ∨ ∃ e, e' = f e ∧ (e = d ∨ e ∈ es ∧ e.key = k) := by
  fun_induction upsert k f d es with
  | case1 => exact .inr ⟨d, List.mem_singleton.1 h, .inl rfl⟩
  | case2 e es hk =>
    rcases List.mem_cons.1 h with h | h
    · exact .inr ⟨e, h, .inr ⟨List.mem_cons_self, beq_iff_eq.1 hk⟩⟩
    · exact .inl (List.mem_cons_of_mem _ h)
  | case3 e es hk ih =>
    rcases List.mem_cons.1 h with h | h
    · exact .inl (h ▸ List.mem_cons_self)
    · rcases ih h with h | ⟨e0, h0, h1⟩
      · exact .inl (List.mem_cons_of_mem _ h)
      · exact .inr ⟨e0, h0, h1.imp_right (.imp_left (List.mem_cons_of_mem _))⟩

/-- `upsert` as a dict update, for an `f` that keeps keys and a default filed under `k`. -/
theorem findEdge_upsert (hf : ∀ e, (f e).key = e.key) (hd : d.key = k) (k' : Str) :
    findEdge k' (upsert k f d es) =
      if k == k' then some (f ((findEdge k es).getD d)) else findEdge k' es := by
  fun_induction upsert k f d es with
  | case1 => rw [findEdge_cons, hf, hd]; rfl
  | case2 e es hk =>
    rw [findEdge_cons, findEdge_cons, findEdge_cons, hf, hk, ← beq_iff_eq.1 hk]
    cases e.key == k' <;> rfl
  | case3 e es hk ih =>
    rw [findEdge_cons, findEdge_cons, findEdge_cons, ih, if_neg hk]
    cases h : k == k'
    · rfl
    · rw [beq_iff_eq.1 h] at hk; rw [if_neg hk]; rfl

theorem upsert_keys (hf : ∀ e, (f e).key = e.key) (hd : d.key = k) :
    (upsert k f d es).map Edge.key =
      if k ∈ es.map Edge.key then es.map Edge.key else es.map Edge.key ++ [k] := by
  fun_induction upsert k f d es with
  | case1 => rw [List.map_singleton, hf, hd]; rfl
  | case2 e es hk =>
    rw [List.map_cons, List.map_cons, hf, if_pos (beq_iff_eq.1 hk ▸ List.mem_cons_self)]
  | case3 e es hk ih =>
    have hne : ¬ k = e.key := fun h => hk (beq_iff_eq.2 h.symm)
    simp only [List.map_cons, ih, List.mem_cons, hne, false_or]
    split <;> rfl

theorem upsert_length_ge (k : Str) (f : Edge α → Edge α) (d : Edge α) (es : List (Edge α)) :
    es.length ≤ (upsert k f d es).length := by
  fun_induction upsert k f d es with
  | case1 => exact Nat.zero_le _
  | case2 e es hk => exact Nat.le_refl _
  | case3 e es hk ih => exact Nat.succ_le_succ ih

theorem mem_upsert_of_ne {e : Edge α} (hf : ∀ e, (f e).key = e.key) (hd : d.key = k)
    (hne : e.key ≠ k) : e ∈ upsert k f d es ↔ e ∈ es := by
  refine ⟨fun h => ?_, fun h => ?_⟩
  · rcases mem_upsert h with h | ⟨e0, rfl, rfl | ⟨_, h0⟩⟩
    · exact h
    · exact absurd ((hf _).trans hd) hne
    · exact absurd ((hf _).trans h0) hne
  · fun_induction upsert k f d es with
    | case1 => cases h
    | case2 e0 es hk =>
      rcases List.mem_cons.1 h with rfl | h
      · exact absurd (beq_iff_eq.1 hk) hne
      · exact List.mem_cons_of_mem _ h
    | case3 e0 es hk ih => exact (List.mem_cons.1 h).elim (· ▸ List.mem_cons_self) (List.mem_cons_of_mem _ ∘ ih)

theorem upsert_fixed {e : Edge α} (h : findEdge k es = some e) (hfe : f e = e) :
    upsert k f d es = es := by
  fun_induction upsert k f d es with
  | case1 => cases h
  | case2 e0 es hk => rw [findEdge_cons, if_pos hk] at h; cases h; rw [hfe]
  | case3 e0 es hk ih => rw [findEdge_cons, if_neg hk] at h; rw [ih h]

theorem countP_upsert_le (q : Edge α → Bool) (k : Str) (f : Edge α → Edge α) (d : Edge α)
    (es : List (Edge α)) : (upsert k f d es).countP q ≤ es.countP q + 1 := by
  fun_induction upsert k f d es with
  | case1 => exact List.countP_le_length
  | case2 e es hk =>
    rw [List.countP_cons, ← List.countP_singleton]
    exact Nat.add_le_add (List.sublist_cons_self e es).countP_le List.countP_le_length
  | case3 e es hk ih =>
    rw [List.countP_cons, List.countP_cons, Nat.add_right_comm]
    exact Nat.add_le_add_right ih _

end Upsert

/-- the pair edge of member `m` is present, is a concept edge and carries the attach weight. -/
def Attached (p : Promo α) (es : List (Edge α)) (m : Str) : Prop :=
  ∃ e, findEdge (edgeKey p.cid m).key es = some e ∧ e.concept = true ∧ e.w = p.w

theorem attached_attachStep (p : Promo α) (es : List (Edge α)) {m m' : Str}
    (h : m = m' ∨ Attached p es m) : Attached p (attachStep p es m') m := by
  rw [Attached, attachStep, findEdge_upsert]
  · cases hk : (edgeKey p.cid m').key == (edgeKey p.cid m).key
    · rcases h with rfl | h
      · rw [beq_iff_eq.mpr rfl] at hk; cases hk
      · exact h
    · exact ⟨_, rfl, rfl, rfl⟩
  · exact fun _ => rfl
  · rfl

theorem attach_foldl_attached (p : Promo α) (ms : List Str) (es : List (Edge α)) (m : Str)
    (h : m ∈ ms ∨ Attached p es m) : Attached p (ms.foldl (attachStep p) es) m := by
  induction ms generalizing es with
  | nil => exact h.resolve_left List.not_mem_nil
  | cons a ms ih =>
    refine ih _ ?_
    rcases h with h | h
    · exact (List.mem_cons.1 h).symm.imp_right fun e => attached_attachStep p es (.inl e)
    · exact .inr (attached_attachStep p es (.inr h))

theorem attachStep_fixed (p : Promo α) (es : List (Edge α)) (m : Str)
    (h : Attached p es m) : attachStep p es m = es := by
  obtain ⟨e, h1, h2, h3⟩ := h
  refine upsert_fixed h1 ?_
  cases e; cases h2; cases h3; rfl

theorem attach_foldl_idem (p : Promo α) (es : List (Edge α)) :
    p.members.foldl (attachStep p) (p.members.foldl (attachStep p) es) =
      p.members.foldl (attachStep p) es :=
  Fold.foldl_fixed _ _ _ fun m hm =>
    attachStep_fixed p _ m (attach_foldl_attached p p.members es m (.inl hm))

theorem attach_foldl_mem_of_ne (p : Promo α) (ms : List Str) (es : List (Edge α)) (e : Edge α)
    (h : ∀ m ∈ ms, e.key ≠ (edgeKey p.cid m).key) :
    e ∈ ms.foldl (attachStep p) es ↔ e ∈ es :=
  Fold.foldl_invariant (fun es' => e ∈ es' ↔ e ∈ es) _ _
    (fun es' m hm ih =>
      (mem_upsert_of_ne (fun _ => rfl) rfl (h m hm) : e ∈ attachStep p es' m ↔ e ∈ es').trans ih)
    Iff.rfl

theorem mem_attach_foldl (p : Promo α) (ms : List Str) {es : List (Edge α)} {e : Edge α}
    (h : e ∈ ms.foldl (attachStep p) es) : e ∈ es ∨ (e.concept = true ∧ e.w = p.w) := by
  induction ms generalizing es with
  | nil => exact .inl h
  | cons m ms ih =>
    exact (ih h).elim (fun h => (mem_upsert h).imp_right fun ⟨_, h, _⟩ => h ▸ ⟨rfl, rfl⟩) .inr

theorem hasNode_append_self (ns : List Node) (id label : Str) :
    hasNode (ns ++ [⟨id, label⟩]) id = true := by
  rw [hasNode, List.any_append, List.any_cons, beq_iff_eq.mpr rfl, Bool.true_or, Bool.or_true]

theorem ensure_some (g : Store α) : ensure (some g) = g := rfl

theorem applyPromotion_enabled (c : Cfg α) (s : State α) (p : Promo α) (hen : c.enabled = true) :
    applyPromotion c s p = some { ensure s with
      nodes := if hasNode (ensure s).nodes p.cid then (ensure s).nodes
               else (ensure s).nodes ++ [⟨p.cid, p.label⟩]
      conceptCount := if hasNode (ensure s).nodes p.cid then (ensure s).conceptCount
                      else (ensure s).conceptCount + 1
      edges := p.members.foldl (attachStep p) (ensure s).edges
      edgesCount := some (p.members.foldl (attachStep p) (ensure s).edges).length } := by
  simp [applyPromotion, hen]

end Clem.Gel
