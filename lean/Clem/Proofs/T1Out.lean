import Clem.Proofs.T1
import Clem.Proofs.Fold
import Mathlib.Data.List.Infix

/-! Output (`deltasOf`) and seeding (`matchKeywords`, `collectLabels`) of the T1 model. -/

namespace Clem.T1
open Num

variable {α : Type} [Num α]
set_option linter.unusedSectionVars false

theorem sorted_keys_lt (acc : List (Nat × α)) (hnd : (acc.map (·.1)).Nodup) :
    (Clem.Py.isort idLe acc).Pairwise (fun a b => a.1 < b.1) := by
  have hs : (Clem.Py.isort idLe acc).Pairwise (fun a b => idLe a b = true) :=
    Clem.Py.isort_pairwise idLe
      (fun a b => by simp only [idLe, decide_eq_true_eq]; exact Nat.le_total a.1 b.1)
      (fun a b c h1 h2 => by simp only [idLe, decide_eq_true_eq] at *; exact Nat.le_trans h1 h2) acc
  have hnd' : ((Clem.Py.isort idLe acc).map (·.1)).Nodup :=
    ((Clem.Py.isort_perm idLe acc).map _).nodup_iff.mpr hnd
  have hne : (Clem.Py.isort idLe acc).Pairwise (fun a b => a.1 ≠ b.1) := by
    have := hnd'
    unfold List.Nodup at this
    exact List.pairwise_map.mp this
  refine (hs.and hne).imp ?_
  intro a b h
  obtain ⟨h1, h2⟩ := h
  simp only [idLe, decide_eq_true_eq] at h1
  omega

theorem deltasOf_pairwise (c : Cfg α) (acc : List (Nat × α)) (hnd : (acc.map (·.1)).Nodup) :
    (deltasOf c acc).Pairwise (· < ·) := by
  unfold deltasOf
  rw [List.pairwise_map]
  exact (sorted_keys_lt acc hnd).filter _

theorem mem_deltasOf (c : Cfg α) (acc : List (Nat × α)) (id : Nat) :
    id ∈ deltasOf c acc ↔ ∃ x, (id, x) ∈ acc ∧ lt (abs x) c.eps = false := by
  unfold deltasOf
  simp only [List.mem_map, List.mem_filter, Clem.Py.mem_isort, Bool.not_eq_true', Prod.exists]
  constructor
  · rintro ⟨a, b, ⟨hm, hl⟩, rfl⟩
    exact ⟨b, hm, hl⟩
  · rintro ⟨x, hm, hl⟩
    exact ⟨id, x, ⟨hm, hl⟩, rfl⟩

theorem strictAsc_of_pairwise : ∀ (l : List Nat), l.Pairwise (· < ·) → strictAsc l = true
  | [], _ => rfl
  | [_], _ => rfl
  | a :: b :: r, h => by
    rw [List.pairwise_cons] at h
    simp only [strictAsc, Bool.and_eq_true, decide_eq_true_eq]
    exact ⟨h.1 b (by simp), strictAsc_of_pairwise (b :: r) h.2⟩

theorem pairwise_of_strictAsc : ∀ (l : List Nat), strictAsc l = true → l.Pairwise (· < ·)
  | [], _ => List.Pairwise.nil
  | [_], _ => by simp
  | a :: b :: r, h => by
    simp only [strictAsc, Bool.and_eq_true, decide_eq_true_eq] at h
    have ih := pairwise_of_strictAsc (b :: r) h.2
    rw [List.pairwise_cons]
    refine ⟨?_, ih⟩
    intro x hx
    rw [List.pairwise_cons] at ih
    rcases List.mem_cons.mp hx with hx | hx
    · subst hx; exact h.1
    · exact Nat.lt_trans h.1 (ih.1 x hx)

theorem outputOk_deltasOf (c : Cfg α) (acc : List (Nat × α)) (hnd : (acc.map (·.1)).Nodup) :
    outputOk c acc (deltasOf c acc) = true := by
  unfold outputOk
  simp only [Bool.and_eq_true]
  refine ⟨⟨strictAsc_of_pairwise _ (deltasOf_pairwise c acc hnd), ?_⟩, ?_⟩
  · rw [List.all_eq_true]
    intro id hid
    obtain ⟨x, hm, hl⟩ := (mem_deltasOf c acc id).mp hid
    rw [List.any_eq_true]
    exact ⟨(id, x), hm, by rw [beq_iff_eq.mpr rfl, hl]; rfl⟩
  · rw [List.all_eq_true]
    intro kv hkv
    cases hl : lt (abs kv.2) c.eps with
    | true => simp
    | false =>
      simp only [Bool.false_or, List.contains_iff_mem]
      exact (mem_deltasOf c acc kv.1).mpr ⟨kv.2, hkv, hl⟩

theorem isPrefixB_iff : ∀ (p t : List Nat), isPrefixB p t = true ↔ p <+: t
  | [], t => by simp [isPrefixB]
  | _ :: _, [] => by simp [isPrefixB]
  | a :: as, b :: bs => by
    simp only [isPrefixB, Bool.and_eq_true, beq_iff_eq, List.cons_prefix_cons]
    rw [isPrefixB_iff as bs]

theorem isInfixB_iff (p : List Nat) : ∀ (t : List Nat), isInfixB p t = true ↔ p <:+: t
  | [] => by
    simp only [isInfixB, isPrefixB_iff]
    simp
  | b :: bs => by
    simp only [isInfixB, Bool.or_eq_true, isPrefixB_iff, isInfixB_iff p bs]
    rw [List.infix_cons_iff]

theorem kwMatch_iff (text kw : List Nat) :
    kwMatch text kw = true ↔ kw ≠ [] ∧ lower kw <:+: lower text := by
  unfold kwMatch
  simp only [Bool.and_eq_true, Bool.not_eq_true', isInfixB_iff]
  constructor
  · rintro ⟨h1, h2⟩
    exact ⟨by intro h; subst h; simp at h1, h2⟩
  · rintro ⟨h1, h2⟩
    refine ⟨?_, h2⟩
    cases kw with
    | nil => exact absurd rfl h1
    | cons _ _ => rfl

theorem mem_seedInsert (s : List Nat) (n x : Nat) : x ∈ seedInsert s n ↔ x ∈ s ∨ x = n := by
  unfold seedInsert
  split
  · rename_i h
    have : n ∈ s := by simpa using h
    constructor
    · intro hx; exact Or.inl hx
    · rintro (hx | hx)
      · exact hx
      · subst hx; exact this
  · simp

theorem nodup_seedInsert (s : List Nat) (n : Nat) (h : s.Nodup) : (seedInsert s n).Nodup := by
  unfold seedInsert
  split
  · exact h
  · rename_i hn
    exact List.nodup_append_comm.1 (List.nodup_cons.2 ⟨by simpa using hn, h⟩)

theorem mem_foldl_seeds (text : List Nat) (l : List (Nat × List Nat)) (s : List Nat) (x : Nat) :
    x ∈ l.foldl (fun s p => if kwMatch text p.2 then seedInsert s p.1 else s) s ↔
      x ∈ s ∨ ∃ kw, (x, kw) ∈ l ∧ kwMatch text kw = true := by
  induction l generalizing s with
  | nil => simp
  | cons p l ih =>
    simp only [List.foldl_cons]
    rw [ih]
    obtain ⟨n, kw⟩ := p
    by_cases hm : kwMatch text kw = true
    · simp only [hm, if_true, mem_seedInsert]
      constructor
      · rintro ((h | h) | ⟨kw', h1, h2⟩)
        · exact Or.inl h
        · subst h; exact Or.inr ⟨kw, by simp, hm⟩
        · exact Or.inr ⟨kw', by simp [h1], h2⟩
      · rintro (h | ⟨kw', h1, h2⟩)
        · exact Or.inl (Or.inl h)
        · simp only [List.mem_cons, Prod.mk.injEq] at h1
          rcases h1 with ⟨h3, _⟩ | h1
          · exact Or.inl (Or.inr h3)
          · exact Or.inr ⟨kw', h1, h2⟩
    · simp only [hm, Bool.false_eq_true, if_false]
      constructor
      · rintro (h | ⟨kw', h1, h2⟩)
        · exact Or.inl h
        · exact Or.inr ⟨kw', by simp [h1], h2⟩
      · rintro (h | ⟨kw', h1, h2⟩)
        · exact Or.inl h
        · simp only [List.mem_cons, Prod.mk.injEq] at h1
          rcases h1 with ⟨_, h4⟩ | h1
          · subst h4; exact absurd h2 hm
          · exact Or.inr ⟨kw', h1, h2⟩

theorem nodup_foldl_seeds (text : List Nat) (l : List (Nat × List Nat)) (s : List Nat)
    (h : s.Nodup) :
    (l.foldl (fun s p => if kwMatch text p.2 then seedInsert s p.1 else s) s).Nodup :=
  Fold.foldl_invariant List.Nodup _ l
    (fun s p _ h => iteInduction (motive := List.Nodup) (fun _ => nodup_seedInsert _ _ h) fun _ => h) h

theorem mem_matchKeywords (text : List Nat) (labels : List (Nat × List Nat)) (x : Nat) :
    x ∈ matchKeywords text labels ↔ ∃ kw, (x, kw) ∈ labels ∧ kwMatch text kw = true := by
  unfold matchKeywords
  rw [mem_foldl_seeds]
  simp [Clem.Py.mem_isort]

theorem nodup_matchKeywords (text : List Nat) (labels : List (Nat × List Nat)) :
    (matchKeywords text labels).Nodup := by
  unfold matchKeywords
  exact nodup_foldl_seeds _ _ _ List.nodup_nil

theorem mem_collectLabels (g : Graph α) (nid : Nat) (kw : List Nat) :
    (nid, kw) ∈ collectLabels g ↔
      ∃ n ∈ g.nodes, n.id = nid ∧ kw ≠ [] ∧ (kw = n.label ∨ kw ∈ n.tags) := by
  unfold collectLabels nodeLabels
  simp only [List.mem_flatMap, List.mem_append, List.mem_map, List.mem_filter]
  constructor
  · rintro ⟨n, hn, h | ⟨t, ⟨ht, hne⟩, heq⟩⟩
    · split at h
      · simp at h
      · rename_i hl
        simp only [List.mem_singleton, Prod.mk.injEq] at h
        obtain ⟨h1, h2⟩ := h
        refine ⟨n, hn, h1.symm, ?_, Or.inl h2⟩
        subst h2; intro he; rw [he] at hl; simp at hl
    · simp only [Prod.mk.injEq] at heq
      obtain ⟨h1, h2⟩ := heq
      subst h2
      refine ⟨n, hn, h1, ?_, Or.inr ht⟩
      intro he; subst he; simp at hne
  · rintro ⟨n, hn, hid, hne, h | h⟩
    · refine ⟨n, hn, Or.inl ?_⟩
      have : n.label.isEmpty = false := by
        cases hl : n.label with
        | nil => rw [hl] at h; exact absurd h hne
        | cons _ _ => rfl
      simp [this, hid, h]
    · refine ⟨n, hn, Or.inr ⟨kw, ⟨h, ?_⟩, by simp [hid]⟩⟩
      cases kw with
      | nil => exact absurd rfl hne
      | cons _ _ => rfl

end Clem.T1
