import Clem.Proofs.T1Hist

/-!
The rule monitor `traceRuleOk` (evaluated by the driver on the heap trace of the REAL run) holds on the
heap trace of every model run — so the Boolean the driver evaluates on the implementation is a
consequence of the proved history invariant.  Needs only reflexivity of the carrier's representation
equality `eqb` (bit equality for `Float`).
-/

namespace Clem.T1
open Num

variable {α : Type} [Num α]
set_option linter.unusedSectionVars false

def curAfter (s : Option (Nat × α)) : List (Bool × Nat × α) → Option (Nat × α)
  | [] => s
  | (true, u, w) :: r => curAfter (some (u, w)) r
  | (false, _, _) :: r => curAfter s r

theorem curAfter_append (s : Option (Nat × α)) (l m : List (Bool × Nat × α)) :
    curAfter s (l ++ m) = curAfter (curAfter s l) m := by
  induction l generalizing s with
  | nil => rfl
  | cons a l ih =>
    obtain ⟨b, u, w⟩ := a
    cases b <;> simp [curAfter, ih]

theorem traceRuleOk_append (c : Cfg α) (g : Graph α) (s : Option (Nat × α))
    (l m : List (Bool × Nat × α)) :
    traceRuleOk c g s (l ++ m) = (traceRuleOk c g s l && traceRuleOk c g (curAfter s l) m) := by
  induction l generalizing s with
  | nil => simp [traceRuleOk, curAfter]
  | cons a l ih =>
    obtain ⟨b, u, w⟩ := a
    cases b
    · cases s with
      | none => simp [traceRuleOk, curAfter, ih]
      | some p =>
        obtain ⟨pu, pw⟩ := p
        simp [traceRuleOk, curAfter, ih, Bool.and_assoc]
    · simp [traceRuleOk, curAfter, ih]

theorem curAfter_heapTrace (evs : List (Ev α)) :
    curAfter none (heapTraceOf evs) = lastPop evs := by
  unfold heapTraceOf
  induction evs with
  | nil => rfl
  | cons e r ih =>
    rw [List.reverse_cons, List.filterMap_append, curAfter_append, ih]
    cases e <;> rfl

theorem pushRuleOk_of_rule (hrefl : ∀ a : α, eqb a a = true) (c : Cfg α) (g : Graph α) (l : LogE α)
    (h : RuleOK c g l) : pushRuleOk c g l.src l.w l.dst l.contrib = true := by
  obtain ⟨hc, hdec, hm, ⟨e, he, hs, hd, hw, hr⟩, hdd, hrad, hlay, heps⟩ := h
  unfold pushRuleOk
  simp only [Bool.and_eq_true, Bool.not_eq_true', List.any_eq_true]
  refine ⟨heps, e, ?_, ?_, ?_⟩
  · exact List.mem_filter.mpr ⟨he, beq_iff_eq.mpr hs⟩
  · exact beq_iff_eq.mpr hd
  · refine ⟨l.dsrc, ?_, ?_⟩
    · rw [List.mem_range, Int.lt_toNat]
      rw [hdd] at hrad hlay
      unfold imin
      split
      · exact hlay
      · exact hrad
    · rw [← hdd, hdec]
      simp only
      rw [hw, hr, ← hm, ← hc]
      exact hrefl _

theorem traceRuleOk_model (hrefl : ∀ a : α, eqb a a = true) (c : Cfg α) (g : Graph α)
    (seeds : List Nat) :
    ∀ (evs : List (Ev α)), EvsOK c g seeds evs → traceRuleOk c g none (heapTraceOf evs) = true := by
  intro evs
  induction evs with
  | nil => intro _; rfl
  | cons e r ih =>
    intro hok
    have ihr := ih hok.2
    have hcur := curAfter_heapTrace r
    unfold heapTraceOf at ihr hcur ⊢
    rw [List.reverse_cons, List.filterMap_append, traceRuleOk_append, ihr, hcur]
    simp only [Bool.true_and]
    cases e with
    | pop u w => rfl
    | push v x a =>
      obtain ⟨_, _, l, r', hr, hd, hx⟩ := hok.1
      have hrel : EvOK c g seeds (Ev.relax l) r' := by
        have := hok.2
        rw [hr] at this
        exact this.1
      have hlp : lastPop r = some (l.src, l.w) := by
        rw [hr]; simp only [lastPop]; exact hrel.2.2
      rw [hlp]
      simp only [List.filterMap_cons, projEv, List.filterMap_nil, traceRuleOk, Bool.and_true]
      rw [← hd, ← hx]
      exact pushRuleOk_of_rule hrefl c g l hrel.1
    | _ => rfl

end Clem.T1
