import Mathlib.Algebra.Order.Field.Basic
import Clem.Py.Num

/-!
`Num α` at an ordered field: the instance under which models written against `Clem.Py.Num`
are proved about, and the `simp` lemmas (`num_zero` … `num_beq`) that turn `Num.add a b` into `a + b`,
`Num.lt a b = true` into `a < b`, ….  Reusable by every package with a `Num`-generic model.
-/
namespace Clem.Py

variable {α : Type} [Field α] [LinearOrder α]

instance fieldNum : Num α where
  zero := 0
  one := 1
  add a b := a + b
  sub a b := a - b
  mul a b := a * b
  div a b := a / b
  neg a := -a
  abs a := |a|
  lt a b := decide (a < b)
  le a b := decide (a ≤ b)
  beq a b := decide (a = b)

@[simp] theorem num_zero : (Num.zero : α) = 0 := rfl
@[simp] theorem num_one : (Num.one : α) = 1 := rfl
@[simp] theorem num_add (a b : α) : Num.add a b = a + b := rfl
@[simp] theorem num_sub (a b : α) : Num.sub a b = a - b := rfl
@[simp] theorem num_mul (a b : α) : Num.mul a b = a * b := rfl
@[simp] theorem num_div (a b : α) : Num.div a b = a / b := rfl
@[simp] theorem num_neg (a : α) : Num.neg a = -a := rfl
@[simp] theorem num_abs (a : α) : Num.abs a = |a| := rfl
@[simp] theorem num_lt (a b : α) : Num.lt a b = decide (a < b) := rfl
@[simp] theorem num_le (a b : α) : Num.le a b = decide (a ≤ b) := rfl
@[simp] theorem num_beq (a b : α) : Num.beq a b = decide (a = b) := rfl

end Clem.Py
