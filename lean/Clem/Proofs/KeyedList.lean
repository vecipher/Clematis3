/-!
Keyed lists.  The cache models keep their entries in a list (oldest → newest) and address them
through a key projection: lookup is `List.find?` on the key, removal of a key is `List.filter`,
(re)insertion appends at the newest end.  The facts are stated for an arbitrary projection `key`
into any type with a lawful `==`; the models' `lookup` / `without` unfold to exactly these terms.
-/
namespace Clem.KeyedList

variable {α κ : Type} [BEq κ] [LawfulBEq κ] {key : α → κ} {k : κ} {l : List α} {e : α}

theorem find?_some (h : l.find? (key · == k) = some e) : e ∈ l ∧ key e = k :=
  ⟨List.mem_of_find?_eq_some h, eq_of_beq (List.find?_some (p := (key · == k)) h)⟩

theorem find?_eq_none : l.find? (key · == k) = none ↔ k ∉ l.map key := by
  simp only [List.find?_eq_none, List.mem_map, beq_iff_eq, not_exists, not_and]

theorem filter_eq_self (h : k ∉ l.map key) : l.filter (key · != k) = l :=
  List.filter_eq_self.mpr fun _ ha => bne_iff_ne.mpr fun hk => h (hk ▸ List.mem_map_of_mem ha)

theorem not_mem_keys_filter : k ∉ (l.filter (key · != k)).map key := fun h => by
  obtain ⟨a, ha, hk⟩ := List.mem_map.mp h
  exact bne_iff_ne.mp (List.mem_filter.mp ha).2 hk

omit [BEq κ] [LawfulBEq κ] in
theorem nodup_keys_filter (p : α → Bool) (h : (l.map key).Nodup) : ((l.filter p).map key).Nodup :=
  h.sublist (List.filter_sublist.map key)

theorem length_filter_lt (h : l.find? (key · == k) = some e) :
    (l.filter (key · != k)).length < l.length :=
  List.length_filter_lt_length_iff_exists.mpr
    ⟨e, (find?_some h).1, by simp [(find?_some h).2]⟩

omit [BEq κ] [LawfulBEq κ] in
theorem nodup_keys_snoc (h : (l.map key).Nodup) (he : key e ∉ l.map key) :
    ((l ++ [e]).map key).Nodup := by
  rw [List.map_append, List.nodup_append]
  refine ⟨h, List.nodup_cons.mpr ⟨List.not_mem_nil, List.nodup_nil⟩, fun _ ha b hb hab => he ?_⟩
  rw [List.map_singleton, List.mem_singleton] at hb
  exact hb ▸ hab ▸ ha

omit [BEq κ] [LawfulBEq κ] in
/-- The key sequence after an insert-or-update: unchanged, or one new key at the end. -/
theorem nodup_ite_snoc {l : List κ} {k : κ} [Decidable (k ∈ l)] (h : l.Nodup) :
    (if k ∈ l then l else l ++ [k]).Nodup := by
  split
  · exact h
  · next hk => exact List.nodup_append.2 ⟨h, List.nodup_cons.2 ⟨List.not_mem_nil, List.nodup_nil⟩,
      fun a ha b hb e => hk (List.mem_singleton.1 hb ▸ e ▸ ha)⟩

omit [BEq κ] [LawfulBEq κ] in
theorem mem_ite_snoc {l : List κ} {k x : κ} [Decidable (k ∈ l)] :
    x ∈ (if k ∈ l then l else l ++ [k]) ↔ x ∈ l ∨ x = k := by
  split
  · next hm => exact ⟨Or.inl, fun h => h.elim id (· ▸ hm)⟩
  · rw [List.mem_append, List.mem_singleton]

/-- Moving or overwriting a key: drop it, append the new entry for it. -/
theorem nodup_keys_reinsert (h : (l.map key).Nodup) (hk : key e = k) :
    ((l.filter (key · != k) ++ [e]).map key).Nodup :=
  nodup_keys_snoc (nodup_keys_filter _ h) (hk ▸ not_mem_keys_filter)

theorem find?_filter_self : (l.filter (key · != k)).find? (key · == k) = none :=
  find?_eq_none.mpr not_mem_keys_filter

theorem find?_filter_of_ne {x : κ} (hx : x ≠ k) :
    (l.filter (key · != k)).find? (key · == x) = l.find? (key · == x) := by
  induction l with
  | nil => rfl
  | cons a t ih =>
    by_cases ha : key a = k
    · rw [List.filter_cons_of_neg (by simp [ha]), List.find?_cons_of_neg (by simp [ha, Ne.symm hx]), ih]
    · rw [List.filter_cons_of_pos (by simp [ha]), List.find?_cons, List.find?_cons, ih]

/-- After a reinsertion of `k` a lookup sees the new entry under `k` and what it saw before under
every other key. -/
theorem find?_reinsert [DecidableEq κ] (hk : key e = k) (x : κ) :
    (l.filter (key · != k) ++ [e]).find? (key · == x)
      = if x = k then some e else l.find? (key · == x) := by
  rw [List.find?_append, List.find?_singleton]
  by_cases hx : x = k
  · rw [hx, find?_filter_self, if_pos (beq_iff_eq.mpr hk), if_pos rfl]; rfl
  · rw [find?_filter_of_ne hx, if_neg (by simp [hk, Ne.symm hx]), if_neg hx, Option.or_none]

/-- With unique keys a lookup by the key of a member finds that member. -/
theorem find?_of_mem (hn : (l.map key).Nodup) (he : e ∈ l) : l.find? (key · == key e) = some e := by
  induction l with
  | nil => cases he
  | cons a t ih =>
    rw [List.map_cons, List.nodup_cons] at hn
    rcases List.mem_cons.mp he with rfl | hm
    · exact List.find?_cons_of_pos (beq_self_eq_true _)
    · rw [List.find?_cons_of_neg, ih hn.2 hm]
      exact fun h => hn.1 (eq_of_beq h ▸ List.mem_map_of_mem hm)

/-! Association lists `(key, value)` looked up by `find?` and projected to the value. -/

variable {β : Type} {d : List (κ × β)} {v : β}

theorem assoc_some (h : (d.find? (·.1 == k)).map (·.2) = some v) : (k, v) ∈ d := by
  obtain ⟨p, hp, rfl⟩ := Option.map_eq_some_iff.mp h
  have := find?_some (key := Prod.fst) hp
  exact this.2 ▸ this.1

theorem assoc_eq_none : (d.find? (·.1 == k)).map (·.2) = none ↔ k ∉ d.map (·.1) := by
  rw [Option.map_eq_none_iff, find?_eq_none]

end Clem.KeyedList
