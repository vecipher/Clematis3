import Clem.Model.LogJson

/-! Helper lemmas for `normalize_for_identity`: `get` through `setIf`/`pop`, commutation of the
dict operations, the conditional overwrite `rewriteAt` behind the `durations_ms` and `slice_idx`
steps, what `normBase`/`normTurn` preserve, and the case split on the kind of stream. -/
namespace Clem.LogJson

theorem get_cons (k' : Str) (e : Str × V) (r : Rec) :
    get k' (e :: r) = if k' = e.1 then some e.2 else get k' r := by
  unfold get
  rw [List.lookup_cons]
  by_cases h : k' = e.1
  · rw [if_pos h, beq_iff_eq.mpr h]
  · rw [if_neg h, beq_eq_false_iff_ne.mpr h]

theorem get_setIf (k k' : Str) (v : V) (r : Rec) :
    get k' (setIf k v r) = if k' = k then (get k' r).map (fun _ => v) else get k' r := by
  induction r with
  | nil => exact (ite_self _).symm
  | cons e r ih =>
    rw [setIf, List.map_cons, ← setIf, get_cons, get_cons, ih]
    by_cases h1 : e.1 = k
    · by_cases h2 : k' = e.1
      · simp only [if_pos h1, if_pos h2, if_pos (h2.trans h1), Option.map_some]
      · simp only [if_pos h1, if_neg h2]
    · by_cases h2 : k' = e.1
      · simp only [if_neg h1, if_pos h2, if_neg (h2 ▸ h1)]
      · simp only [if_neg h1, if_neg h2]

theorem get_pop (k k' : Str) (r : Rec) :
    get k' (pop k r) = if k' = k then none else get k' r := by
  induction r with
  | nil => exact (ite_self _).symm
  | cons e r ih =>
    rw [pop, List.filter_cons, ← pop, get_cons]
    by_cases h1 : e.1 = k
    · rw [beq_iff_eq.mpr h1, Bool.not_true, if_neg Bool.false_ne_true, ih]
      by_cases h2 : k' = k
      · rw [if_pos h2, if_pos h2]
      · rw [if_neg h2, if_neg h2, if_neg (fun h => h2 (h.trans h1))]
    · rw [beq_eq_false_iff_ne.mpr h1, Bool.not_false, if_pos rfl, get_cons, ih]
      by_cases h2 : k' = e.1
      · rw [if_pos h2, if_pos h2, if_neg (h2 ▸ h1)]
      · rw [if_neg h2, if_neg h2]

theorem setIf_setIf_same (k : Str) (v w : V) (r : Rec) : setIf k v (setIf k w r) = setIf k v r := by
  simp only [setIf, List.map_map]
  apply List.map_congr_left
  intro e _
  by_cases h : e.1 = k <;> simp [h]

theorem setIf_comm (k k' : Str) (v v' : V) (h : k ≠ k') (r : Rec) :
    setIf k v (setIf k' v' r) = setIf k' v' (setIf k v r) := by
  simp only [setIf, List.map_map]
  apply List.map_congr_left
  intro e _
  obtain ⟨ek, ev⟩ := e
  by_cases h1 : ek = k
  · subst h1
    have : ¬ ek = k' := h
    simp [this]
  · by_cases h2 : ek = k'
    · subst h2; simp [h1]
    · simp [h1, h2]

theorem setIf_fst (k : Str) (v : V) (e : Str × V) :
    (if e.1 = k then (e.1, v) else e).1 = e.1 := by
  by_cases h : e.1 = k <;> simp [h]

theorem setIf_pop (k k' : Str) (v : V) (r : Rec) : setIf k v (pop k' r) = pop k' (setIf k v r) := by
  simp only [setIf, pop, List.filter_map]
  congr 1
  apply List.filter_congr
  intro e _
  simp only [Function.comp, setIf_fst]

theorem pop_comm (k k' : Str) (r : Rec) : pop k (pop k' r) = pop k' (pop k r) := by
  simp only [pop, List.filter_filter]
  congr 1; funext e; exact Bool.and_comm _ _

theorem pop_idem (k : Str) (r : Rec) : pop k (pop k r) = pop k r := by
  simp [pop, List.filter_filter]

theorem keys_setIf (k : Str) (v : V) (r : Rec) : keys (setIf k v r) = keys r := by
  rw [keys, setIf, List.map_map]
  exact List.map_congr_left fun e _ => setIf_fst k v e

theorem keys_pop (k : Str) (r : Rec) : keys (pop k r) = (keys r).filter (fun x => !(x == k)) := by
  rw [keys, pop, keys, List.filter_map]
  rfl

/-! ### the sub-record outside a key set is untouched -/

/-- the entries whose key is not in `ks`; the model's `stable name` is `outside (volatile name)`. -/
def outside (ks : List Str) (r : Rec) : Rec := r.filter (fun e => !ks.contains e.1)

theorem outside_setIf (ks : List Str) (k : Str) (v : V) (hk : ks.contains k = true) (r : Rec) :
    outside ks (setIf k v r) = outside ks r := by
  have hf : (fun e : Str × V => !ks.contains e.1) ∘ (fun e => if e.1 = k then (e.1, v) else e)
      = fun e => !ks.contains e.1 := funext fun e => by rw [Function.comp, setIf_fst]
  rw [outside, setIf, List.filter_map, hf]
  -- the entries that are kept do not have key `k`
  refine (List.map_congr_left fun e he => if_neg fun h => ?_).trans (List.map_id _)
  have := (List.mem_filter.mp he).2
  rw [h, hk] at this
  exact Bool.noConfusion this

theorem outside_pop (ks : List Str) (k : Str) (hk : ks.contains k = true) (r : Rec) :
    outside ks (pop k r) = outside ks r := by
  simp only [outside, pop, List.filter_filter]
  apply List.filter_congr
  intro e _
  by_cases h : e.1 = k
  · rw [h, hk]; rfl
  · simp [h]

/-! ### facts used by the monitor `normOkB` -/

/-- every `ms` entry holds `0.0` (the `ms` clause of the monitor `normOkB`). -/
def msZero (r : Rec) : Bool := r.all (fun e => !(e.1 == kMs) || e.2 == .flt0)

theorem msZero_setIf_ms (r : Rec) : msZero (setIf kMs .flt0 r) = true := by
  simp only [msZero, setIf, List.all_map, List.all_eq_true, Function.comp]
  intro e _
  by_cases h : e.1 = kMs
  · simp only [if_pos h, beq_self_eq_true, Bool.or_true]
  · simp only [if_neg h, beq_eq_false_iff_ne.mpr h, Bool.not_false, Bool.true_or]

theorem msZero_pop (k : Str) (r : Rec) (h : msZero r = true) : msZero (pop k r) = true := by
  simp only [msZero, pop, List.all_eq_true] at h ⊢
  intro e he
  exact h e (List.mem_filter.mp he).1

theorem msZero_setIf (k : Str) (v : V) (hk : k ≠ kMs) (r : Rec) (h : msZero r = true) :
    msZero (setIf k v r) = true := by
  simp only [msZero, setIf, List.all_map, List.all_eq_true, Function.comp] at h ⊢
  intro e he
  by_cases h1 : e.1 = k
  · simp only [if_pos h1, beq_eq_false_iff_ne.mpr (h1 ▸ hk), Bool.not_false, Bool.true_or]
  · rw [if_neg h1]
    exact h e he

theorem has_pop (k k' : Str) (hk : k ≠ k') (r : Rec) :
    (keys (pop k' r)).contains k = (keys r).contains k := by
  rw [keys_pop, Bool.eq_iff_iff]
  simp [List.mem_filter, hk]

theorem has_pop_self (k : Str) (r : Rec) : (keys (pop k r)).contains k = false := by
  rw [keys_pop]
  simp only [List.contains_eq_mem, List.mem_filter, beq_iff_eq.mpr rfl, Bool.not_true, Bool.false_eq_true, and_false,
    decide_false]

/-! ### the two conditional overwrites of `normTurn` are one operation -/

/-- `b = f(out[k])` defined ⇒ `out[k] = g(b)`: the shape of the `durations_ms` and `slice_idx` steps. -/
def rewriteAt {β : Type} (k : Str) (f : V → Option β) (g : β → V) (r : Rec) : Rec :=
  match (get k r).bind f with
  | some b => setIf k (g b) r
  | none => r

theorem normDur_eq (r : Rec) : normDur r = rewriteAt kDur V.dkeys V.zeros r := by
  unfold normDur rewriteAt
  cases (get kDur r).bind V.dkeys <;> rfl

theorem coerceSlice_eq (r : Rec) : coerceSlice r = rewriteAt kSlice V.asInt V.int r := by
  unfold coerceSlice rewriteAt
  cases (get kSlice r).bind V.asInt <;> rfl

section RewriteAt
variable {β : Type} (k : Str) (f : V → Option β) (g : β → V)

/-- what holds of the record and of every overwrite at `k` holds of `rewriteAt k`. -/
theorem rewriteAt_cases (P : Rec → Prop) (r : Rec) (h0 : P r) (h1 : ∀ v, P (setIf k v r)) :
    P (rewriteAt k f g r) := by
  unfold rewriteAt
  cases (get k r).bind f with
  | none => exact h0
  | some b => exact h1 _

theorem get_rewriteAt (k' : Str) (h : k' ≠ k) (r : Rec) :
    get k' (rewriteAt k f g r) = get k' r :=
  rewriteAt_cases k f g (get k' · = get k' r) r rfl fun _ => (get_setIf k k' _ r).trans (if_neg h)

theorem rewriteAt_setIf (k' : Str) (v : V) (h : k' ≠ k) (r : Rec) :
    rewriteAt k f g (setIf k' v r) = setIf k' v (rewriteAt k f g r) := by
  unfold rewriteAt
  rw [get_setIf, if_neg h.symm]
  cases (get k r).bind f with
  | none => rfl
  | some b => exact setIf_comm k k' _ _ h.symm r

theorem rewriteAt_pop (k' : Str) (h : k' ≠ k) (r : Rec) :
    rewriteAt k f g (pop k' r) = pop k' (rewriteAt k f g r) := by
  unfold rewriteAt
  rw [get_pop, if_neg h.symm]
  cases (get k r).bind f with
  | none => rfl
  | some b => exact setIf_pop k k' _ r

/-- idempotent when `f` reads back what `g` wrote. -/
theorem rewriteAt_idem (hfg : ∀ b, f (g b) = some b) (r : Rec) :
    rewriteAt k f g (rewriteAt k f g r) = rewriteAt k f g r := by
  unfold rewriteAt
  cases h : (get k r).bind f with
  | none => simp only [h]
  | some b =>
    have hg : (get k (setIf k (g b) r)).bind f = some b := by
      rw [get_setIf, if_pos rfl]
      cases hgr : get k r with
      | none => rw [hgr] at h; cases h
      | some v => exact hfg b
    simp only [hg]
    exact setIf_setIf_same k _ _ r

theorem rewriteAt_comm {β' : Type} (k' : Str) (f' : V → Option β') (g' : β' → V) (h : k ≠ k')
    (r : Rec) :
    rewriteAt k f g (rewriteAt k' f' g' r) = rewriteAt k' f' g' (rewriteAt k f g r) := by
  have e : ∀ r', rewriteAt k' f' g' r' =
      match (get k' r').bind f' with
      | some b => setIf k' (g' b) r'
      | none => r' := fun _ => rfl
  rw [e r, e (rewriteAt k f g r), get_rewriteAt k f g k' h.symm]
  cases (get k' r).bind f' with
  | none => rfl
  | some b => exact rewriteAt_setIf k f g k' _ h.symm r

theorem keys_rewriteAt (r : Rec) : keys (rewriteAt k f g r) = keys r :=
  rewriteAt_cases k f g (keys · = keys r) r rfl (keys_setIf k · r)

theorem outside_rewriteAt (ks : List Str) (h : ks.contains k = true) (r : Rec) :
    outside ks (rewriteAt k f g r) = outside ks r :=
  rewriteAt_cases k f g (outside ks · = outside ks r) r rfl (outside_setIf ks k · h r)

theorem msZero_rewriteAt (hk : k ≠ kMs) (r : Rec) (h : msZero r = true) :
    msZero (rewriteAt k f g r) = true :=
  rewriteAt_cases k f g (msZero · = true) r h (msZero_setIf k · hk r h)

end RewriteAt

/-! ### `yielded`, and the `turn.jsonl` tail -/

theorem yieldedTruthy_congr {r r' : Rec} (h : get kYielded r' = get kYielded r) :
    yieldedTruthy r' = yieldedTruthy r := by
  unfold yieldedTruthy
  rw [h]

theorem yieldedTruthy_normDur (r : Rec) : yieldedTruthy (normDur r) = yieldedTruthy r :=
  yieldedTruthy_congr ((normDur_eq r).symm ▸ get_rewriteAt kDur _ _ kYielded (by decide) r)

theorem yieldedTruthy_coerceSlice (r : Rec) : yieldedTruthy (coerceSlice r) = yieldedTruthy r :=
  yieldedTruthy_congr ((coerceSlice_eq r).symm ▸ get_rewriteAt kSlice _ _ kYielded (by decide) r)

theorem yieldedTruthy_set_tru (r : Rec) (h : yieldedTruthy r = true) :
    yieldedTruthy (setIf kYielded .tru r) = true := by
  unfold yieldedTruthy at h ⊢
  rw [get_setIf, if_pos rfl]
  cases hg : get kYielded r with
  | none => rw [hg] at h; cases h
  | some v => rfl

theorem yieldedTruthy_pop_self (r : Rec) : yieldedTruthy (pop kYielded r) = false := by
  unfold yieldedTruthy
  rw [get_pop, if_pos rfl]

theorem normTurn_pos {r : Rec} (h : yieldedTruthy (normDur r) = true) :
    normTurn r = setIf kYielded .tru (coerceSlice (normDur r)) := if_pos h

theorem normTurn_neg {r : Rec} (h : yieldedTruthy (normDur r) = false) :
    normTurn r = pop kYielded (pop kSlice (normDur r)) := if_neg (h ▸ Bool.false_ne_true)

/-- what holds of both branches of the `turn.jsonl` tail holds of `normTurn`. -/
theorem normTurn_cases (P : Rec → Prop) (r : Rec)
    (h1 : yieldedTruthy (normDur r) = true → P (setIf kYielded .tru (coerceSlice (normDur r))))
    (h2 : yieldedTruthy (normDur r) = false → P (pop kYielded (pop kSlice (normDur r)))) :
    P (normTurn r) := by
  cases h : yieldedTruthy (normDur r) with
  | true => exact normTurn_pos h ▸ h1 h
  | false => exact normTurn_neg h ▸ h2 h

theorem normTurn_idem (r : Rec) : normTurn (normTurn r) = normTurn r := by
  refine normTurn_cases (fun x => normTurn x = x) r (fun hy => ?_) (fun _ => ?_)
  · have e1 : normDur (setIf kYielded .tru (coerceSlice (normDur r)))
        = setIf kYielded .tru (coerceSlice (normDur r)) := by
      rw [normDur_eq, normDur_eq, coerceSlice_eq, rewriteAt_setIf _ _ _ _ _ (by decide),
        rewriteAt_comm _ _ _ _ _ _ (by decide), rewriteAt_idem kDur V.dkeys V.zeros (fun _ => rfl)]
    have e2 : yieldedTruthy (setIf kYielded .tru (coerceSlice (normDur r))) = true :=
      yieldedTruthy_set_tru _ (by rw [yieldedTruthy_coerceSlice]; exact hy)
    rw [normTurn_pos (e1.symm ▸ e2), e1, coerceSlice_eq, coerceSlice_eq,
      rewriteAt_setIf _ _ _ _ _ (by decide), rewriteAt_idem kSlice V.asInt V.int (fun _ => rfl),
      setIf_setIf_same]
  · have e1 : normDur (pop kYielded (pop kSlice (normDur r))) = pop kYielded (pop kSlice (normDur r)) := by
      rw [normDur_eq, normDur_eq, rewriteAt_pop _ _ _ _ (by decide), rewriteAt_pop _ _ _ _ (by decide),
        rewriteAt_idem kDur V.dkeys V.zeros (fun _ => rfl)]
    rw [normTurn_neg (e1.symm ▸ yieldedTruthy_pop_self _), e1, pop_comm kSlice kYielded,
      pop_idem kYielded, pop_idem kSlice]

/-! ### `normBase` and `normTurn` act on different keys -/

theorem normBase_idem (r : Rec) : normBase (normBase r) = normBase r := by
  unfold normBase
  rw [setIf_pop, pop_idem, setIf_setIf_same]

theorem setIf_normBase (k : Str) (v : V) (h : k ≠ kMs) (r : Rec) :
    setIf k v (normBase r) = normBase (setIf k v r) := by
  unfold normBase
  rw [setIf_pop, setIf_comm k kMs _ _ h]

theorem pop_normBase (k : Str) (r : Rec) : pop k (normBase r) = normBase (pop k r) := by
  unfold normBase
  rw [pop_comm, setIf_pop]

theorem get_normBase (k : Str) (h1 : k ≠ kMs) (h2 : k ≠ kNow) (r : Rec) :
    get k (normBase r) = get k r := by
  unfold normBase
  rw [get_pop, if_neg h2, get_setIf, if_neg h1]

theorem rewriteAt_normBase {β : Type} (k : Str) (f : V → Option β) (g : β → V) (h1 : kNow ≠ k)
    (h2 : kMs ≠ k) (r : Rec) : rewriteAt k f g (normBase r) = normBase (rewriteAt k f g r) := by
  unfold normBase
  rw [rewriteAt_pop _ _ _ _ h1, rewriteAt_setIf _ _ _ _ _ h2]

theorem normTurn_normBase (r : Rec) : normTurn (normBase r) = normBase (normTurn r) := by
  have ed : normDur (normBase r) = normBase (normDur r) := by
    rw [normDur_eq, rewriteAt_normBase _ _ _ (by decide) (by decide), ← normDur_eq]
  have ey : yieldedTruthy (normDur (normBase r)) = yieldedTruthy (normDur r) :=
    ed ▸ yieldedTruthy_congr (get_normBase kYielded (by decide) (by decide) _)
  refine normTurn_cases (fun x => normTurn (normBase r) = normBase x) r (fun hy => ?_) (fun hy => ?_)
  · rw [normTurn_pos (ey.trans hy), ed, coerceSlice_eq (normBase _),
      rewriteAt_normBase _ _ _ (by decide) (by decide), ← coerceSlice_eq,
      setIf_normBase _ _ (by decide)]
  · rw [normTurn_neg (ey.trans hy), ed, pop_normBase, pop_normBase]

/-! ### what `normBase` and `normTurn` preserve -/

theorem outside_normBase (ks : List Str) (h1 : ks.contains kMs = true) (h2 : ks.contains kNow = true)
    (r : Rec) : outside ks (normBase r) = outside ks r := by
  unfold normBase
  rw [outside_pop ks kNow h2, outside_setIf ks kMs _ h1]

theorem outside_normTurn (ks : List Str) (h1 : ks.contains kDur = true)
    (h2 : ks.contains kYielded = true) (h3 : ks.contains kSlice = true) (r : Rec) :
    outside ks (normTurn r) = outside ks r := by
  have hd : outside ks (normDur r) = outside ks r := normDur_eq r ▸ outside_rewriteAt _ _ _ ks h1 r
  refine normTurn_cases (outside ks · = outside ks r) r (fun _ => ?_) (fun _ => ?_)
  · rw [outside_setIf ks _ _ h2, coerceSlice_eq, outside_rewriteAt _ _ _ ks h3, hd]
  · rw [outside_pop ks _ h2, outside_pop ks _ h3, hd]

theorem msZero_normBase (r : Rec) : msZero (normBase r) = true :=
  msZero_pop _ _ (msZero_setIf_ms r)

theorem msZero_normTurn (r : Rec) (h : msZero r = true) : msZero (normTurn r) = true := by
  have hd : msZero (normDur r) = true := normDur_eq r ▸ msZero_rewriteAt kDur _ _ (by decide) r h
  refine normTurn_cases (msZero · = true) r (fun _ => ?_) (fun _ => msZero_pop _ _ (msZero_pop _ _ hd))
  exact msZero_setIf _ _ (by decide) _ (coerceSlice_eq _ ▸ msZero_rewriteAt kSlice _ _ (by decide) _ hd)

theorem has_normTurn (k : Str) (h1 : k ≠ kYielded) (h2 : k ≠ kSlice) (r : Rec) :
    (keys (normTurn r)).contains k = (keys r).contains k := by
  have hd : keys (normDur r) = keys r := normDur_eq r ▸ keys_rewriteAt _ _ _ r
  refine normTurn_cases (fun x => (keys x).contains k = (keys r).contains k) r
    (fun _ => ?_) (fun _ => ?_)
  · rw [keys_setIf, coerceSlice_eq, keys_rewriteAt, hd]
  · rw [has_pop k _ h1, has_pop k _ h2, hd]

/-- `normalize` (under CI) and `volatile` branch on the stream name in the same way. -/
theorem normalize_true_cases (name : Str) :
    ((∀ r, normalize true name r = setIf kMs .flt0 r) ∧ volatile name = [kMs]) ∨
    ((∀ r, normalize true name r = normTurn (normBase r)) ∧
      volatile name = [kMs, kNow, kDur, kYielded, kSlice]) ∨
    ((∀ r, normalize true name r = normBase r) ∧ volatile name = [kMs, kNow]) ∨
    ((∀ r, normalize true name r = r) ∧ volatile name = []) := by
  have n0 : ¬ (!true) = true := Bool.false_ne_true
  unfold normalize volatile
  by_cases h1 : name = nReflection
  · exact Or.inl ⟨fun r => by rw [if_neg n0, if_pos h1], if_pos h1⟩
  · by_cases h2 : Gen.Logs.identityLogsIo.contains name = true
    · by_cases h3 : name = nTurn
      · exact Or.inr (Or.inl ⟨fun r => by rw [if_neg n0, if_neg h1, if_pos h2, if_pos h3],
          by rw [if_neg h1, if_pos h2, if_pos h3]⟩)
      · exact Or.inr (Or.inr (Or.inl ⟨fun r => by rw [if_neg n0, if_neg h1, if_pos h2, if_neg h3],
          by rw [if_neg h1, if_pos h2, if_neg h3]⟩))
    · exact Or.inr (Or.inr (Or.inr ⟨fun r => by rw [if_neg n0, if_neg h1, if_neg h2],
        by rw [if_neg h1, if_neg h2]⟩))

theorem normalize_idem (ci : Bool) (name : Str) (r : Rec) :
    normalize ci name (normalize ci name r) = normalize ci name r := by
  cases ci with
  | false => rfl
  | true =>
    rcases normalize_true_cases name with ⟨e, _⟩ | ⟨e, _⟩ | ⟨e, _⟩ | ⟨e, _⟩ <;> simp only [e]
    · exact setIf_setIf_same kMs _ _ r
    · rw [normTurn_normBase (normTurn (normBase r)), normTurn_idem, ← normTurn_normBase,
        normBase_idem]
    · exact normBase_idem r

end Clem.LogJson
