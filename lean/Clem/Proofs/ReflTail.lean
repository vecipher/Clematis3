import Clem.Proofs.Refl

/-!
Helper lemmas for C19 about the write path and the reflection tail of `run_turn`
(`Clem/Model/Refl.lean`: `runReflection`, `gateCall`, `tail`, `addLoop`, `writeEntries`, `reflectReal`).
-/

namespace Clem.Refl

theorem runReflection_eq (t : TurnIn) (o : Oracles) :
    runReflection t o = if gateOpen t then some (afterGate t o) else none := by
  unfold runReflection gateOpen
  generalize (t.planFlag || t.stateFlag) = b
  cases t.dry <;> cases t.cfg.allow <;> cases b <;> rfl

theorem gateCall_closed (t : TurnIn) (o : Oracles) (h : gateOpen t = false) : gateCall t o = none := by
  unfold gateCall
  rw [runReflection_eq, h]
  cases o.runFault <;> rfl

theorem gateCall_some {t : TurnIn} {o : Oracles} {res : RResult} (h : gateCall t o = some res) :
    o.runFault = false ∧ res = afterGate t o := by
  unfold gateCall at h
  cases hf : o.runFault with
  | true => rw [hf] at h; cases h
  | false =>
    rw [hf, runReflection_eq] at h
    simp only [Bool.false_eq_true, if_false] at h
    split at h
    · exact ⟨rfl, (Option.some.inj h).symm⟩
    · cases h

theorem stashAfter_eq_gateCall {clear : Bool} {c : CtxSt} (h : clear = true ∨ c.stash = none) (t : TurnIn)
    (o : Oracles) : stashAfter clear c t o = gateCall t o := by
  unfold stashAfter
  cases gateCall t o with
  | some r => rfl
  | none =>
    rcases h with rfl | h
    · rfl
    · rw [h]; cases clear <;> rfl

theorem tail_inert {clear : Bool} {c : CtxSt} {t : TurnIn} {o : Oracles} (hc : clear = true ∨ c.stash = none)
    (hg : gateCall t o = none) :
    (tail clear c t o).2.called = false ∧ (tail clear c t o).2.written = [] ∧ (tail clear c t o).2.log = none := by
  unfold tail
  cases t.dry && t.t4on
  · rw [if_neg Bool.false_ne_true, stashAfter_eq_gateCall hc, hg]; exact ⟨rfl, rfl, rfl⟩
  · exact ⟨rfl, rfl, rfl⟩

theorem tail_written (clear : Bool) (c : CtxSt) (t : TurnIn) (o : Oracles) :
    (tail clear c t o).2.written = [] ∨
      ∃ res ts, stashAfter clear c t o = some res ∧ tsOf (headIso c t) t.nowMs = some ts ∧
        (tail clear c t o).2.written = writeEntries t o ts res := by
  unfold tail
  cases t.dry && t.t4on
  · rw [if_neg Bool.false_ne_true]
    cases hs : stashAfter clear c t o with
    | none => exact .inl rfl
    | some res =>
      cases hts : tsOf (headIso c t) t.nowMs with
      | none => exact .inl rfl
      | some ts => exact .inr ⟨res, ts, rfl, rfl, rfl⟩
  · exact .inl rfl

theorem addLoop_mem {a tu : Str} {ts : Ts} {i : Nat} {es : List Entry} {fs : List Bool} {w : Written}
    (hw : w ∈ addLoop a tu ts i es fs) :
    ∃ j e, es[j]? = some e ∧ w = ⟨a, tu, i + j, e.text, strip e.text, ts, e.vec⟩ := by
  induction es generalizing i fs with
  | nil => cases hw
  | cons e es ih =>
    have rest : w ∈ addLoop a tu ts (i + 1) es fs.tail →
        ∃ j e', (e :: es)[j]? = some e' ∧ w = ⟨a, tu, i + j, e'.text, strip e'.text, ts, e'.vec⟩ := fun h => by
      obtain ⟨j, e', hj, rfl⟩ := ih h
      exact ⟨j + 1, e', hj, by rw [Nat.add_assoc, Nat.add_comm 1 j]⟩
    unfold addLoop at hw
    split at hw
    · exact rest hw
    · rcases List.mem_cons.mp hw with rfl | h
      · exact ⟨0, e, rfl, rfl⟩
      · exact rest h

theorem addLoop_length (a tu : Str) (ts : Ts) (i : Nat) (es : List Entry) (fs : List Bool) :
    (addLoop a tu ts i es fs).length ≤ es.length := by
  induction es generalizing i fs with
  | nil => exact Nat.le_refl 0
  | cons e es ih =>
    have := ih (i + 1) fs.tail
    unfold addLoop
    split
    · exact Nat.le_succ_of_le this
    · exact Nat.succ_le_succ this

/-- The writer's guards in one line: a faulting writer or a missing index writes nothing; otherwise the add loop
runs over the first `max 0 ops_reflection` entries (none for a null cap, where `int(None)` raises). -/
theorem writeEntries_eq (t : TurnIn) (o : Oracles) (ts : Ts) (res : RResult) :
    writeEntries t o ts res =
      if o.writeFault || o.indexMissing then []
      else addLoop t.agent t.turn ts 0 (res.entries.take (capNat t.cfg.opsCap)) o.addFail := by
  unfold writeEntries capNat
  cases hes : res.entries with
  | nil => simp only [List.isEmpty_nil, if_true, List.take_nil, addLoop, ite_self]
  | cons e es =>
    cases o.writeFault with
    | true => rfl
    | false =>
      cases t.cfg.opsCap with
      | none => simp only [List.take_zero, addLoop, ite_self]
      | some cap =>
        by_cases hc : cap ≤ 0
        · simp only [hc, Int.toNat_of_nonpos hc, List.take_zero, addLoop, ite_self]
        · simp only [hc]; rfl

theorem writeEntries_length (t : TurnIn) (o : Oracles) (ts : Ts) (res : RResult) :
    (writeEntries t o ts res).length ≤ min (capNat t.cfg.opsCap) res.entries.length := by
  rw [writeEntries_eq]
  split
  · exact Nat.zero_le _
  · exact Nat.le_trans (addLoop_length ..) (Nat.le_of_eq List.length_take)

/-- A successful real `reflect`, either backend: the result is `mkResult` of `_truncate_tokens` applied to text
whose only whitespace is the single space (normalised text, or the adapter's clipped completion). -/
theorem reflectReal_ok {t : TurnIn} {snips : List Str} {ad : Adapter} {res : RResult}
    (h : reflectReal t snips ad = .ok res) :
    ∃ s fk, OnlySp s ∧
      res = mkResult (truncateTokens s t.cfg.limit) t.cfg.embed (opsCapReflect t.cfg.opsCap) fk := by
  unfold reflectReal at h
  simp only at h
  split at h
  · unfold reflectLlm at h
    split at h
    · cases h
    · split at h
      · cases h
      · split at h
        · cases h
        · rename_i text htext
          injection h with h
          refine ⟨text, true, ?_, h.symm⟩
          unfold llmText at htext
          split at htext
          · cases htext
          · cases htext
          · simp only at htext
            split at htext
            · cases htext
            · injection htext with htext; subst htext; exact adapterClip_onlySp _ _
  · split at h
    · injection h with h
      exact ⟨_, false, ruleRaw_onlySp _ _, h.symm⟩
    · cases h

theorem reflectReal_entries {t : TurnIn} {snips : List Str} {ad : Adapter} {res : RResult}
    (h : reflectReal t snips ad = .ok res) :
    res.entries.length ≤ 1 ∧ ∀ e ∈ res.entries, e.text = res.summary := by
  obtain ⟨s, fk, _, rfl⟩ := reflectReal_ok h
  unfold mkResult
  split
  · exact ⟨Nat.le_refl 1, fun x hx => by rw [List.mem_singleton.mp hx]⟩
  · exact ⟨Nat.zero_le 1, nofun⟩

theorem nonReflection_append {ρ : Type} (a b : List (Emitted ρ)) :
    nonReflection (a ++ b) = nonReflection a ++ nonReflection b := by
  induction a with
  | nil => rfl
  | cons x a ih => cases x <;> simp only [List.cons_append, nonReflection, ih]

theorem nonReflection_other {ρ : Type} (l : List ρ) : nonReflection (l.map Emitted.other) = l := by
  induction l with
  | nil => rfl
  | cons x l ih => simp only [List.map_cons, nonReflection, ih]

end Clem.Refl
