import Clem.Proofs.Par
import Clem.Model.ParT1

/-! Helper lemmas for the T1 fan-out (C09). -/
namespace Clem.ParT1

open Clem.Par Clem.Py

variable {α D G E : Type}

theorem mergeStep_eq_seqStep (gt : α → α → Bool) (gate : Bool) (a : Agg α D) (r : List D × GM α) :
    mergeStep gt gate a r = seqStep gt gate a r := rfl

theorem length_tasksFrom (name : G → List Nat) (g : G → Except E (List D × GM α)) (i : Nat) (l : List G) :
    (tasksFrom name g i l).length = l.length := by
  induction l generalizing i with
  | nil => rfl
  | cons a l ih => exact congrArg (· + 1) (ih (i + 1))

/-! When `g` never raises: no failures, and the `(key, result)` pairs are the tasks themselves. -/

theorem failPairs_tasksFrom (name : G → List Nat) (g : G → List D × GM α) (i : Nat) (l : List G) :
    failPairs (tasksFrom (E := E) name (fun x => .ok (g x)) i l) = [] := by
  induction l generalizing i with
  | nil => rfl
  | cons a l ih => exact ih (i + 1)

theorem map_idx_okPairs_tasksFrom (name : G → List Nat) (g : G → List D × GM α) (i : Nat) (l : List G) :
    (okPairs (tasksFrom (E := E) name (fun x => .ok (g x)) i l)).map (fun p => p.1.1)
      = List.range' i l.length := by
  induction l generalizing i with
  | nil => rfl
  | cons a l ih => rw [tasksFrom, okPairs, List.map_cons, ih, List.length_cons, List.range'_succ]

/-- the submit-ordered pairs are already sorted by `(idx, gid)`: the sort is the identity. -/
theorem sortPairs_okPairs_tasksFrom (name : G → List Nat) (g : G → List D × GM α) (i : Nat) (l : List G) :
    sortPairs keyLe (okPairs (tasksFrom (E := E) name (fun x => .ok (g x)) i l))
      = okPairs (tasksFrom (E := E) name (fun x => .ok (g x)) i l) :=
  isort_of_pairwise _ <|
    (List.pairwise_map.mp (map_idx_okPairs_tasksFrom name g i l ▸ List.pairwise_lt_range')).imp
      fun {p q} (h : p.1.1 < q.1.1) => by simp [keyLe, h]

theorem foldl_okPairs_tasksFrom (gt : α → α → Bool) (gate : Bool) (name : G → List Nat)
    (g : G → List D × GM α) (i : Nat) (l : List G) (acc : Agg α D) :
    (okPairs (tasksFrom (E := E) name (fun x => .ok (g x)) i l)).foldl
        (fun a p => mergeStep gt gate a p.2) acc
      = l.foldl (fun a gid => seqStep gt gate a (g gid)) acc := by
  induction l generalizing i acc with
  | nil => rfl
  | cons a l ih =>
    rw [tasksFrom, okPairs, List.foldl_cons, List.foldl_cons, mergeStep_eq_seqStep]
    exact ih (i + 1) _

end Clem.ParT1
