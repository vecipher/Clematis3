import Clem.Model.DetLru
import Clem.Proofs.KeyedList

/-! The deterministic containers (`LSet`, `LMap`, `Ring`): their invariants (unique keys within capacity; for the
ring, the refcount bag is a permutation of the window) are kept by every operation. -/
namespace Clem.DetLru

def LSet.Inv (s : LSet) : Prop := s.q.Nodup ∧ s.q.length ≤ s.cap

def LMap.Inv (s : LMap) : Prop := (s.items.map (·.1)).Nodup ∧ s.items.length ≤ s.cap

/-- Window bound, and the reference counts never over-count the window. -/
def Ring.Inv (s : Ring) : Prop := s.q.length ≤ s.k ∧ ∀ x, s.ref.count x ≤ s.q.count x

section
variable {α : Type}

/-- The loop pops the `len - cap` oldest elements. -/
theorem evictFront_eq (cap : Nat) (l : List α) :
    evictFront cap l = (l.drop (l.length - cap), l.take (l.length - cap)) := by
  induction l with
  | nil => rw [List.length_nil, Nat.zero_sub]; rfl
  | cons a as ih =>
    unfold evictFront
    rw [List.length_cons]
    split
    · next h => rw [ih, Nat.succ_sub (Nat.le_of_lt_succ h)]; rfl
    · next h => rw [Nat.sub_eq_zero_of_le (Nat.le_of_not_lt h)]; rfl

theorem evictFront_length_le (cap : Nat) (l : List α) : (evictFront cap l).1.length ≤ cap := by
  rw [evictFront_eq, List.length_drop]
  exact Nat.sub_le_iff_le_add'.mpr (Nat.le_add_of_sub_le (Nat.le_refl _))

/-- Appending to a list within the cap: nothing goes while there is room, exactly the head goes
when the list was full. -/
theorem evictFront_snoc (cap : Nat) (hc : cap ≠ 0) (q : List α) (x : α) :
    (q.length < cap → evictFront cap (q ++ [x]) = (q ++ [x], [])) ∧
    (q.length = cap → evictFront cap (q ++ [x]) = (q.tail ++ [x], q.take 1)) := by
  rw [evictFront_eq, List.length_append, List.length_singleton]
  constructor
  · intro hl
    rw [Nat.sub_eq_zero_of_le hl]; rfl
  · intro hl
    cases q with
    | nil => exact absurd hl.symm hc
    | cons a t => rw [hl, Nat.add_sub_cancel_left]; rfl

theorem evictFront_sublist (cap : Nat) (l : List α) : (evictFront cap l).1.Sublist l := by
  rw [evictFront_eq]; exact List.drop_sublist _ _

end

namespace LMap

theorem lookup_none_iff {k : Nat} {l : List (Nat × Nat)} : lookup k l = none ↔ k ∉ l.map (·.1) :=
  KeyedList.assoc_eq_none

theorem lookup_some_mem {k v : Nat} {l : List (Nat × Nat)} (h : lookup k l = some v) : (k, v) ∈ l :=
  KeyedList.assoc_some h

theorem length_without_lt {k v : Nat} {l : List (Nat × Nat)} (h : lookup k l = some v) :
    (without k l).length < l.length := by
  obtain ⟨p, hp, -⟩ := Option.map_eq_some_iff.mp h
  exact KeyedList.length_filter_lt (key := Prod.fst) hp

/-- Moving a present key to the MRU end keeps the invariant. -/
theorem inv_reinsert (s : LMap) (k v w : Nat) (h : Inv s) (hw : lookup k s.items = some w) :
    Inv { s with items := without k s.items ++ [(k, v)] } :=
  ⟨KeyedList.nodup_keys_reinsert (e := (k, v)) h.1 rfl, by
    show (without k s.items ++ [(k, v)]).length ≤ s.cap
    rw [List.length_append]; exact Nat.le_trans (length_without_lt hw) h.2⟩

theorem replace_keys (k v : Nat) (l : List (Nat × Nat)) : (replace k v l).map (·.1) = l.map (·.1) := by
  unfold replace
  rw [List.map_map]
  refine List.map_congr_left fun e _ => ?_
  show (if e.1 == k then (k, v) else e).1 = e.1
  split
  · next h => exact (eq_of_beq h).symm
  · rfl

theorem lookup_append_new (k v : Nat) (l : List (Nat × Nat)) (h : lookup k l = none) :
    lookup k (l ++ [(k, v)]) = some v := by
  unfold lookup at h ⊢
  rw [List.find?_append, Option.map_eq_none_iff.mp h,
    List.find?_cons_of_pos (p := fun e : Nat × Nat => e.1 == k) (beq_iff_eq.mpr rfl)]
  rfl

theorem lookup_replace (k v : Nat) (l : List (Nat × Nat)) (w : Nat) (h : lookup k l = some w) :
    lookup k (replace k v l) = some v := by
  unfold lookup replace at *
  induction l with
  | nil => cases h
  | cons e es ih =>
    rw [List.map_cons, List.find?_cons] at *
    by_cases he : e.1 = k
    · rw [if_pos (beq_iff_eq.mpr he), beq_iff_eq.mpr rfl]; rfl
    · rw [if_neg (mt beq_iff_eq.mp he), beq_false_of_ne he] at *
      exact ih h

end LMap

namespace Ring

theorem evict_lt (k : Nat) (q ref : List Nat) (h : q.length < k) : evict k q ref = (q, ref) := by
  cases q with
  | nil => rfl
  | cons a t => rw [evict, if_neg (Nat.not_le_of_lt h)]

theorem evict_full (k : Nat) (a : Nat) (t ref : List Nat) (h : (a :: t).length = k) :
    evict k (a :: t) ref = (t, ref.erase a) := by
  rw [evict, if_pos (Nat.le_of_eq h.symm), evict_lt]
  exact h ▸ Nat.lt_succ_self _

/-- The eviction loop keeps "refcounts ≤ window multiplicities" and leaves room for one more. -/
theorem evict_inv (k : Nat) (hk : 0 < k) (q ref : List Nat) (h : ∀ x, ref.count x ≤ q.count x) :
    (∀ x, (evict k q ref).2.count x ≤ (evict k q ref).1.count x) ∧ (evict k q ref).1.length < k := by
  induction q generalizing ref with
  | nil => exact ⟨h, hk⟩
  | cons old q ih =>
    rw [evict]
    split
    · refine ih _ fun x => ?_
      have hx := h x
      by_cases hxo : x = old
      · subst hxo
        rw [List.count_erase_self]
        rw [List.count_cons_self] at hx
        exact Nat.sub_le_of_le_add hx
      · rw [List.count_erase_of_ne hxo]
        rwa [List.count_cons_of_ne fun h => hxo h.symm] at hx
    · next hc => exact ⟨h, Nat.lt_of_not_le hc⟩

/-- The eviction loop keeps the refcount bag a permutation of the window. -/
theorem evict_perm (k : Nat) (q ref : List Nat) (h : ref.Perm q) :
    (evict k q ref).2.Perm (evict k q ref).1 := by
  induction q generalizing ref with
  | nil => exact h
  | cons old q ih =>
    rw [evict]
    split
    · exact ih _ (List.erase_cons_head old q ▸ h.erase old)
    · exact h

end Ring

end Clem.DetLru
