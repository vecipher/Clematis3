/-!
Runs as folds.  A run of any of the models is `List.foldl step`, so an invariant of every step is
an invariant of every run, a state no operation changes is where every run from it ends, and a
counter bumped on selected operations counts them.
-/
namespace Clem.Fold

variable {σ ι : Type}

theorem foldl_invariant (P : σ → Prop) (step : σ → ι → σ) (ops : List ι)
    (h : ∀ s, ∀ a ∈ ops, P s → P (step s a)) {s : σ} (hs : P s) : P (ops.foldl step s) :=
  List.foldlRecOn ops step hs fun s hs a ha => h s a ha hs

/-- A state that no operation changes is where every run from it ends. -/
theorem foldl_fixed (step : σ → ι → σ) (s : σ) (ops : List ι) (h : ∀ a ∈ ops, step s a = s) :
    ops.foldl step s = s :=
  foldl_invariant (· = s) step ops (fun _ a ha hs => hs ▸ h a ha) rfl

/-- A counter that each step bumps exactly on the operations selected by `p` counts them. -/
theorem foldl_count (m : σ → Nat) (p : ι → Bool) (step : σ → ι → σ)
    (h : ∀ s a, m (step s a) = m s + if p a then 1 else 0) (s : σ) (ops : List ι) :
    m (ops.foldl step s) = m s + (ops.filter p).length := by
  induction ops generalizing s with
  | nil => rfl
  | cons a ops ih =>
    rw [List.foldl_cons, ih, h, List.filter_cons]
    split
    · rw [List.length_cons]; omega
    · rfl

end Clem.Fold
