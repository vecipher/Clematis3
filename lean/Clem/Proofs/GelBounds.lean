import Clem.Proofs.GelTick

/-!
A history acts on the edge list through `stepEdges` alone, so an invariant of the edge list is
checked against `stepEdges` (`run_inv`; any carrier).  Over an ordered field the weights stay inside
the clamp: clamp, observed updates and decay one by one, then along every history.
-/
namespace Clem.Gel
open Clem.Py

section AnyCarrier
variable {α : Type} [NumGel α]

theorem mem_observeEdges {c : Cfg α} {turn : Option Int} {ps : List (Str × Str)}
    {es : List (Edge α)} {e : Edge α} (h : e ∈ observeEdges c turn es ps) :
    e ∈ es ∨ ∃ p ∈ ps, e.key = (edgeKey p.1 p.2).key ∧ ∃ e0, e = bump c turn e0 := by
  induction ps generalizing es with
  | nil => exact .inl h
  | cons p ps ih =>
    rcases ih h with h | ⟨q, hq, h⟩
    · exact (mem_upsert h).imp_right fun ⟨e0, h, h0⟩ =>
        ⟨p, List.mem_cons_self, h ▸ h0.elim (· ▸ rfl) (·.2), e0, h⟩
    · exact .inr ⟨q, List.mem_cons_of_mem _ hq, h⟩

theorem observe_enabled (c : Cfg α) (s : State α) (items : List (Str × α)) (turn : Option Int)
    (hen : c.enabled = true) :
    observe c s items turn =
      (some { ensure s with edges := observeEdges c turn (edgesOf s) (obsPairs c items) },
       ⟨items.length, (usedItems c items).length, (obsPairs c items).length⟩) := by
  unfold observe
  rw [hen]; rfl

/-- The edge list after an observation, gate included: with the gate off no pair is observed. -/
theorem observe_edges (c : Cfg α) (s : State α) (items : List (Str × α)) (turn : Option Int) :
    edgesOf (observe c s items turn).1
      = observeEdges c turn (edgesOf s) (if c.enabled then obsPairs c items else []) := by
  unfold observe
  cases c.enabled <;> rfl

/-- What an operation that gets past the gate does to the edge list. -/
def stepEdges (c : Cfg α) (pw : α → α → α) (es : List (Edge α)) : Op α → List (Edge α)
  | .observe items turn => observeEdges c turn es (obsPairs c items)
  | .tick dt turn => es.filterMap (tickEdge (decayFactor c pw dt) c.floor turn)
  | .promote p => p.members.foldl (attachStep p) es
  | _ => es

theorem step_off (c : Cfg α) (pw : α → α → α) (s : State α) (hoff : c.enabled = false) (op : Op α) :
    step c pw s op = s := by
  cases op <;> simp [step, observe, tick, applyMerge, applySplit, applyPromotion, hoff]

theorem edgesOf_step (c : Cfg α) (pw : α → α → α) (s : State α) (op : Op α) :
    edgesOf (step c pw s op) = edgesOf s ∨
      edgesOf (step c pw s op) = stepEdges c pw (edgesOf s) op := by
  cases hen : c.enabled with
  | false => exact .inl (congrArg edgesOf (step_off c pw s hen op))
  | true =>
    cases op with
    | observe items turn => exact .inr (congrArg (edgesOf ·.1) (observe_enabled c s items turn hen))
    | tick dt turn => exact .inr (tick_enabled c pw s dt turn hen).1
    | merge r => left; unfold step applyMerge; rw [hen]; rfl
    | split r => left; unfold step applySplit; rw [hen]; rfl
    | promote p => right; unfold step applyPromotion; rw [hen]; rfl

theorem run_inv {Q : List (Edge α) → Prop} (c : Cfg α) (pw : α → α → α) {ops : List (Op α)}
    (hstep : ∀ op ∈ ops, ∀ es, Q es → Q (stepEdges c pw es op)) {s : State α}
    (h : Q (edgesOf s)) : Q (edgesOf (run c pw s ops)) :=
  Fold.foldl_invariant (fun s => Q (edgesOf s)) _ _
    (fun s op hop h => by
      rcases edgesOf_step c pw s op with e | e <;> rw [e]
      exacts [h, hstep op hop _ h])
    h

end AnyCarrier

set_option linter.unusedSectionVars false
variable {α : Type} [Field α] [LinearOrder α] [IsStrictOrderedRing α]

theorem clamp_bounds (x lo hi : α) (h : lo ≤ hi) : lo ≤ clamp x lo hi ∧ clamp x lo hi ≤ hi := by
  unfold clamp
  simp only [num_lt, decide_eq_true_eq]
  split_ifs with h1 h2
  · exact ⟨h, le_refl _⟩
  · exact ⟨le_refl _, h⟩
  · exact ⟨not_lt.mp h2, not_lt.mp h1⟩

theorem updW_bounds (c : Cfg α) (w : α) (h : c.cmin ≤ c.cmax) :
    c.cmin ≤ updW c w ∧ updW c w ≤ c.cmax := by
  unfold updW
  split_ifs <;> exact clamp_bounds _ _ _ h

theorem inB_iff (c : Cfg α) (w : α) : inB c w = true ↔ c.cmin ≤ w ∧ w ≤ c.cmax := by
  simp [inB]

theorem decay_in_bounds {lo hi w f : α} (hlo : lo ≤ 0) (hhi : 0 ≤ hi) (hf0 : 0 ≤ f) (hf1 : f ≤ 1)
    (h1 : lo ≤ w) (h2 : w ≤ hi) : lo ≤ w * f ∧ w * f ≤ hi := by
  rcases le_total 0 w with hw | hw
  · exact ⟨hlo.trans (mul_nonneg hw hf0), (mul_le_of_le_one_right hw hf1).trans h2⟩
  · exact ⟨h1.trans (le_mul_of_le_one_right hw hf1),
      (mul_nonpos_of_nonpos_of_nonneg hw hf0).trans hhi⟩

/-- The law of `**` the model relies on (`pw` is Python's `0.5 ** x`). -/
def PowLaw (pw : α → α → α) : Prop := ∀ x : α, 0 ≤ x → 0 ≤ pw (1 / 2) x ∧ pw (1 / 2) x ≤ 1

theorem decayFactor_unit (c : Cfg α) (pw : α → α → α) (hpw : PowLaw pw) (dt : Int) :
    0 ≤ decayFactor c pw dt ∧ decayFactor c pw dt ≤ 1 := by
  unfold decayFactor
  simp only [num_le, num_zero, num_half, num_div, num_ofNat, decide_eq_true_eq]
  split_ifs with h
  · exact ⟨le_refl _, zero_le_one⟩
  · exact hpw _ (div_nonneg (Nat.cast_nonneg _) (le_of_lt (not_le.mp h)))

/-- in bounds, or (non-strict reading) a concept edge -/
def Good (c : Cfg α) (strict : Bool) (e : Edge α) : Prop :=
  (strict = false ∧ e.concept = true) ∨ (c.cmin ≤ e.w ∧ e.w ≤ c.cmax)

/-- `boundedB` is the strict reading, `boundedCoactB` the other; the strict one asks of every
promotion in the history that it attaches inside the clamp. -/
theorem good_run (c : Cfg α) (strict : Bool) (pw : α → α → α) (hlo : c.cmin ≤ 0) (hhi : 0 ≤ c.cmax)
    (hpw : PowLaw pw) (ops : List (Op α))
    (hp : ∀ p, .promote p ∈ ops → strict = false ∨ (c.cmin ≤ p.w ∧ p.w ≤ c.cmax))
    {s : State α} (hs : ∀ e ∈ edgesOf s, Good c strict e) :
    (edgesOf (run c pw s ops)).all (fun e => (!strict && e.concept) || inB c e.w) = true := by
  have h : ∀ e ∈ edgesOf (run c pw s ops), Good c strict e := by
    refine run_inv (Q := fun es => ∀ e ∈ es, Good c strict e) c pw
      (fun op hop es hes e he => ?_) hs
    cases op with
    | observe items turn =>
      rcases mem_observeEdges he with h | ⟨_, _, _, e0, rfl⟩
      · exact hes e h
      · exact .inr (updW_bounds c e0.w (hlo.trans hhi))
    | tick dt turn =>
      obtain ⟨e0, he0, rfl⟩ := mem_filterMap_tickEdge he
      obtain ⟨hf0, hf1⟩ := decayFactor_unit c pw hpw dt
      refine (hes e0 he0).imp id fun h => ?_
      rw [decayEdge_w]
      exact decay_in_bounds hlo hhi hf0 hf1 h.1 h.2
    | promote p =>
      rcases mem_attach_foldl p _ he with h | ⟨hc, hw⟩
      · exact hes e h
      · exact (hp p hop).imp (⟨·, hc⟩) (hw ▸ ·)
    | merge r => exact hes e he
    | split r => exact hes e he
  rw [List.all_eq_true]
  intro e he
  rw [Bool.or_eq_true, Bool.and_eq_true, Bool.not_eq_true', inB_iff]
  exact h e he

end Clem.Gel
