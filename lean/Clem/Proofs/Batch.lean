import Clem.Model.Batch
import Clem.Proofs.Fold
import Clem.Proofs.LogStager
import Clem.Proofs.LogJson

/-! Helper lemmas for C10 (batch driver): the specification of the selection loop, the staging
loop (a step raises iff the record alone exceeds the limit; append), commit loop = pure commit,
per-file contents, sequential loop = pure commit under the dry-run contract, the parallel path
against the C16 staged run of all its arrivals. -/

namespace Clem.Batch
open Clem.LogStager Clem.LogJson Clem.Py

/-! ### selection -/

/-- graph sets of `a` and `b` are disjoint. -/
def Disj (gs : Str → List Str) (a b : Str) : Prop := ∀ g ∈ gs a, g ∉ gs b

theorem disjointB_iff (used g : List Str) : disjointB used g = true ↔ ∀ x ∈ g, x ∉ used := by
  simp only [disjointB, List.all_eq_true, Bool.not_eq_eq_eq_not, Bool.not_true]
  exact forall₂_congr fun x _ => by rw [← Bool.not_eq_true, List.contains_iff_mem]

/-- `used` is exactly the union of the picked agents' graph sets. -/
def UsedOf (gs : Str → List Str) (picked used : List Str) : Prop :=
  ∀ g, g ∈ used ↔ ∃ b ∈ picked, g ∈ gs b

theorem usedOf_snoc {gs : Str → List Str} {picked used : List Str} (a : Str)
    (h : UsedOf gs picked used) : UsedOf gs (picked ++ [a]) (used ++ gs a) := fun g => by
  simp only [List.mem_append, List.mem_singleton, h g, or_and_right, exists_or, exists_eq_left]

/-- The loop of `_select_independent_batch` from any reachable accumulator pair: the result extends
`picked` by a subsequence of the remaining ids, stays pairwise disjoint and within the limit, and
is greedy-maximal (every remaining id is picked, or the batch is full, or it overlaps a picked one). -/
theorem selectGo_spec (gs : Str → List Str) (limit : Nat) (as picked used : List Str)
    (hu : UsedOf gs picked used) (hp : picked.Pairwise (Disj gs)) (hl : picked.length ≤ limit) :
    (∃ rest, selectGo gs limit as picked used = picked ++ rest ∧ rest.Sublist as) ∧
    (selectGo gs limit as picked used).Pairwise (Disj gs) ∧
    (selectGo gs limit as picked used).length ≤ limit ∧
    ∀ a ∈ as, a ∈ selectGo gs limit as picked used ∨
      (selectGo gs limit as picked used).length = limit ∨
      ∃ b ∈ selectGo gs limit as picked used, disjointB (gs b) (gs a) = false := by
  fun_induction selectGo gs limit as picked used with
  | case1 picked used =>
    exact ⟨⟨[], (List.append_nil _).symm, .slnil⟩, hp, hl, fun _ h => nomatch h⟩
  | case2 a as picked used hfull =>
    exact ⟨⟨[], (List.append_nil _).symm, List.nil_sublist _⟩, hp, hl,
      fun _ _ => Or.inr (Or.inl (Nat.le_antisymm hl hfull))⟩
  | case3 a as picked used hfull hdis ih =>
    have hp' : (picked ++ [a]).Pairwise (Disj gs) := by
      rw [List.pairwise_append]
      refine ⟨hp, List.pairwise_singleton _ _, fun b hb c hc g hg hgc => ?_⟩
      rw [List.mem_singleton.mp hc] at hgc
      exact (disjointB_iff used (gs a)).mp hdis g hgc ((hu g).mpr ⟨b, hb, hg⟩)
    have hl' : (picked ++ [a]).length ≤ limit := by
      rw [List.length_append]; exact Nat.lt_of_not_le hfull
    obtain ⟨⟨rest, e, s⟩, hd, hlen, hmax⟩ := ih (usedOf_snoc a hu) hp' hl'
    rw [List.append_assoc] at e
    refine ⟨⟨a :: rest, e, s.cons_cons a⟩, hd, hlen, fun x hx => ?_⟩
    rcases List.mem_cons.mp hx with rfl | hx'
    · exact Or.inl (e ▸ List.mem_append_right _ List.mem_cons_self)
    · exact hmax x hx'
  | case4 a as picked used hfull hdis ih =>
    obtain ⟨⟨rest, e, s⟩, hd, hlen, hmax⟩ := ih hu hp hl
    refine ⟨⟨rest, e, s.cons a⟩, hd, hlen, fun x hx => ?_⟩
    rcases List.mem_cons.mp hx with rfl | hx'
    · -- `x` overlaps `used`, i.e. some picked agent
      obtain ⟨g, hg, hgu⟩ : ∃ g ∈ gs x, g ∈ used :=
        by_contra fun hc => hdis ((disjointB_iff _ _).mpr fun g hg hu => hc ⟨g, hg, hu⟩)
      obtain ⟨b, hb, hgb⟩ := (hu g).mp hgu
      refine Or.inr (Or.inr ⟨b, by rw [e]; exact List.mem_append_left _ hb, Bool.eq_false_iff.mpr ?_⟩)
      exact fun hd => (disjointB_iff _ _).mp hd g hg hgb
    · exact hmax x hx'

/-- pairwise-disjoint ids that fit the worker limit are all picked, in order. -/
theorem selectGo_all (gs : Str → List Str) (limit : Nat) (as picked used : List Str)
    (hu : UsedOf gs picked used) (hp : (picked ++ as).Pairwise (Disj gs))
    (hl : picked.length + as.length ≤ limit) :
    selectGo gs limit as picked used = picked ++ as := by
  fun_induction selectGo gs limit as picked used with
  | case1 => exact (List.append_nil _).symm
  | case2 a as picked used hfull =>
    rw [List.length_cons] at hl
    omega
  | case3 a as picked used hfull hdis ih =>
    have e : picked ++ [a] ++ as = picked ++ a :: as := List.append_assoc ..
    rw [← e] at hp ⊢
    refine ih (usedOf_snoc a hu) hp ?_
    rw [List.length_append, List.length_singleton, Nat.add_assoc, Nat.add_comm 1]
    exact hl
  | case4 a as picked used hfull hdis ih =>
    refine absurd ((disjointB_iff _ _).mpr fun g hg hgu => ?_) hdis
    obtain ⟨b, hb, hgb⟩ := (hu g).mp hgu
    exact (List.pairwise_append.mp hp).2.2 b hb a List.mem_cons_self g hgb hg

theorem usedOf_nil (gs : Str → List Str) : UsedOf gs [] [] := by intro g; simp

/-- filtering a duplicate-free list by membership in one of its subsequences gives the subsequence. -/
theorem filter_contains_sublist {s l : List Str} (h : s.Sublist l) (hn : l.Nodup) :
    l.filter (fun x => s.contains x) = s := by
  -- `s` is a subsequence of the filtered list, which is duplicate-free with all members in `s`
  have hs : s.Sublist (l.filter fun x => s.contains x) := by
    have := h.filter fun x => s.contains x
    rwa [List.filter_eq_self.mpr fun x hx => List.contains_iff_mem.mpr hx] at this
  refine (hs.eq_of_length_le ?_).symm
  exact (List.subperm_of_subset (hn.filter _) fun x hx =>
    List.contains_iff_mem.mp (List.mem_filter.mp hx).2).length_le

/-! ### the staging loop -/

/-- the staging estimate of the record an arrival becomes (the model's `maxEst` is its maximum). -/
def estA (ci : Bool) (a : Arrival) : Nat := estimate (normalize ci (basename a.path) a.payload)

/-- a step of the loop raises exactly when the record alone does not fit the limit. -/
theorem loopStep_ok_iff (ci : Bool) (l : Loop) (a : Arrival) :
    (loopStep ci l a).2 = true ↔ ((estA ci a : Nat) : Int) ≤ l.st.limit := by
  rcases loopStep_cases ci l a with ⟨h, e⟩ | ⟨h, e⟩ | ⟨h, e⟩ <;> rw [e]
  · exact ⟨fun _ => le_trans (Int.ofNat_le.mpr (Nat.le_add_left _ _)) h, fun _ => rfl⟩
  · exact ⟨fun _ => h, fun _ => rfl⟩
  · exact ⟨fun h' => absurd h' Bool.false_ne_true, fun h' => absurd h' h⟩

theorem loopStep_limit (ci : Bool) (l : Loop) (a : Arrival) :
    (loopStep ci l a).1.st.limit = l.st.limit := by
  rcases loopStep_cases ci l a with ⟨_, e⟩ | ⟨_, e⟩ | ⟨_, e⟩ <;> rw [e]

theorem loopRun_limit (ci : Bool) : ∀ (as : List Arrival) (l : Loop),
    (loopRun ci l as).1.st.limit = l.st.limit := by
  intro as l
  fun_induction loopRun ci l as with
  | case1 l => rfl
  | case2 l a as r hok ih => rw [ih, loopStep_limit]
  | case3 l a as r hraise => exact loopStep_limit ci l a

/-- the loop finishes iff every record alone fits the limit. -/
theorem loopRun_ok_iff (ci : Bool) (as : List Arrival) (l : Loop) :
    (loopRun ci l as).2 = true ↔ ∀ a ∈ as, ((estA ci a : Nat) : Int) ≤ l.st.limit := by
  fun_induction loopRun ci l as with
  | case1 l => exact ⟨fun _ _ h => (nomatch h), fun _ => rfl⟩
  | case2 l a as r hok ih =>
    rw [ih, loopStep_limit, List.forall_mem_cons]
    exact (and_iff_right ((loopStep_ok_iff ci l a).mp hok)).symm
  | case3 l a as r hraise =>
    refine ⟨fun h => (nomatch h), fun h => ?_⟩
    exact absurd ((loopStep_ok_iff ci l a).mpr (h a List.mem_cons_self)) hraise

theorem loopRun_append (ci : Bool) (as bs : List Arrival) (l : Loop) :
    loopRun ci l (as ++ bs) =
      if (loopRun ci l as).2 then loopRun ci (loopRun ci l as).1 bs else loopRun ci l as := by
  fun_induction loopRun ci l as with
  | case1 l => rfl
  | case2 l a as r hok ih => rw [List.cons_append, loopRun_cons, if_pos hok, ih]
  | case3 l a as r hraise => rw [List.cons_append, loopRun_cons, if_neg hraise, if_neg Bool.false_ne_true]

/-! ### pure commit -/

structure Pure (σ : Type) where
  state : σ
  lines : List (Str × Int)
  arrs : List Arrival

/-- the commit phase without the stager: fold `apply` over the buffers, collect the apply
records and the result lines. -/
def commitPure {σ D : Type} (apply : σ → D → σ × ApplyOut) : σ → List (Buffer D) → Pure σ
  | s, [] => ⟨s, [], []⟩
  | s, b :: bs =>
    let r := apply s b.deltas
    let c := commitPure apply r.1 bs
    ⟨c.state, b.line :: c.lines, applyArrival b r.2 :: c.arrs⟩

theorem commitLoop_pure {σ D : Type} (ci : Bool) (apply : σ → D → σ × ApplyOut)
    (bs : List (Buffer D)) (l : Loop) (s : σ) :
    (commitLoop ci apply l s bs).ok = (loopRun ci l (commitPure apply s bs).arrs).2 ∧
    (commitLoop ci apply l s bs).loop = (loopRun ci l (commitPure apply s bs).arrs).1 ∧
    ((commitLoop ci apply l s bs).ok = true →
      (commitLoop ci apply l s bs).state = (commitPure apply s bs).state ∧
      (commitLoop ci apply l s bs).lines = (commitPure apply s bs).lines) := by
  fun_induction commitLoop ci apply l s bs with
  | case1 l s => exact ⟨rfl, rfl, fun _ => ⟨rfl, rfl⟩⟩
  | case2 l s b bs r st hok c ih =>
    rw [commitPure, loopRun_cons, if_pos hok]
    exact ⟨ih.1, ih.2.1, fun h => ⟨(ih.2.2 h).1, congrArg (b.line :: ·) (ih.2.2 h).2⟩⟩
  | case3 l s b bs r st hraise =>
    rw [commitPure, loopRun_cons, if_neg hraise]
    exact ⟨rfl, rfl, fun h => nomatch h⟩

/-! ### per-file contents -/

def arrLine (ci : Bool) (a : Arrival) : Line := (a.path, normalize ci (basename a.path) a.payload)

theorem fileOf_append (p : Str) (a b : List Line) : fileOf p (a ++ b) = fileOf p a ++ fileOf p b := by
  simp [fileOf, List.filter_append]

theorem fileOf_cons_append (p : Str) (x : Line) (w : List Line) :
    fileOf p (x :: w) = fileOf p [x] ++ fileOf p w := fileOf_append p [x] w

theorem fileOf_map_lineOf (ci : Bool) (p : Str) (w : List SRec) :
    fileOf p (w.map (lineOf ci)) =
      (fileSeq p w).map (fun r => normalize ci (basename r.path) r.payload) := by
  unfold fileOf fileSeq
  rw [List.filter_map, List.map_map]
  rfl

/-- the writer's second normalisation changes nothing: the lines of the staged records are the
arrivals' lines. -/
theorem map_lineOf_mkRecs (ci : Bool) (as : List Arrival) (n : Nat) :
    (mkRecs ci n as).map (lineOf ci) = as.map (arrLine ci) := by
  induction as generalizing n with
  | nil => rfl
  | cons a as ih =>
    rw [mkRecs_cons, List.map_cons, List.map_cons, ih]
    exact congrArg (· :: _) (Prod.ext rfl (normalize_idem ci _ _))

theorem runBatch_snd (ci : Bool) (limit : Int) (as : List Arrival) :
    (runBatch ci limit as).2 = (loopRun ci ⟨Stager.new limit, []⟩ as).2 := by
  unfold runBatch
  dsimp only
  by_cases h : (loopRun ci ⟨Stager.new limit, []⟩ as).2 = true
  · rw [if_pos h]; exact h.symm
  · rw [if_neg h]; exact (Bool.eq_false_iff.mpr h).symm

theorem runBatch_ok_iff (ci : Bool) (limit : Int) (as : List Arrival) :
    (runBatch ci limit as).2 = true ↔ ∀ a ∈ as, ((estA ci a : Nat) : Int) ≤ limit := by
  rw [runBatch_snd]
  exact loopRun_ok_iff ci as _

/-! ### sequential loop = pure commit under the dry-run contract -/

/-- The dry-run contract with independence (`proj s g` = the part of the state that belongs to
graph `g`): the turn reads only its agent's graphs, its approved deltas change only its agent's
graphs, the dry run emits no `apply.jsonl` record, and every buffer carries the batch's
`(turn_id, slice_idx)` (`_clone_ctx_for_agent` copies both from the batch ctx). -/
structure Contract {σ D C : Type} (P : Params σ D) (gs : Str → List Str) (proj : σ → Str → C)
    (T S : Int) : Prop where
  reads_own : ∀ s s' a t, (∀ g ∈ gs a, proj s g = proj s' g) → P.compute s a t = P.compute s' a t
  writes_own : ∀ s s' a t g, g ∉ gs a → proj (P.apply s (P.compute s' a t).deltas).1 g = proj s g
  no_apply_log : ∀ s a t l, l ∈ (P.compute s a t).logs → l.1 ≠ applyPath
  key_const : ∀ s a t, (P.compute s a t).turn = T ∧ (P.compute s a t).slice = S

theorem fileOf_nil_of_ne (p : Str) (w : List Line) (h : ∀ x ∈ w, x.1 ≠ p) : fileOf p w = [] := by
  unfold fileOf
  rw [List.filter_eq_nil_iff.mpr fun x hx => (beq_eq_false_iff_ne.mpr (h x hx)) ▸ Bool.false_ne_true]
  rfl

/-- lines of file `q` and lines of other files may change places without changing any file. -/
theorem fileOf_comm (p q : Str) (a b : List Line) (ha : ∀ x ∈ a, x.1 ≠ q) (hb : ∀ y ∈ b, y.1 = q) :
    fileOf p b ++ fileOf p a = fileOf p a ++ fileOf p b := by
  by_cases h : p = q
  · rw [fileOf_nil_of_ne p a (fun x hx => h ▸ ha x hx), List.append_nil, List.nil_append]
  · rw [fileOf_nil_of_ne p b (fun y hy e => h (e.symm.trans (hb y hy))), List.append_nil,
      List.nil_append]

/-- the captured logs of the first buffer are staged, and written, as the sequential loop writes them. -/
theorem logArrivals_cons_lines (ci : Bool) {D : Type} (b : Buffer D) (bs : List (Buffer D)) :
    (logArrivals (b :: bs)).map (arrLine ci)
      = b.logs.map (seqLine ci) ++ (logArrivals bs).map (arrLine ci) := by
  rw [logArrivals, List.flatMap_cons, List.map_append, List.map_map]
  rfl

theorem logArrivals_mem {D : Type} (bs : List (Buffer D)) (a : Arrival) (h : a ∈ logArrivals bs) :
    ∃ b ∈ bs, ∃ l ∈ b.logs, a = ⟨l.1, b.turn, b.slice, l.2⟩ := by
  simp only [logArrivals, List.mem_flatMap, List.mem_map] at h
  obtain ⟨b, hb, l, hl, e⟩ := h
  exact ⟨b, hb, l, hl, e.symm⟩

theorem arrLine_applyArrival (ci : Bool) {D : Type} (b : Buffer D) (o : ApplyOut) :
    arrLine ci (applyArrival b o) = seqLine ci (applyPath, applyRec b o) := rfl

/-- Under the dry-run contract the sequential loop over tasks with pairwise-disjoint graphs, run
from any state that agrees with the snapshot `s0` on their graphs, ends in the state and results
of the pure commit of the buffers computed on `s0`, and per file it has written those buffers'
captured logs followed by the apply records. -/
theorem seq_eq_pure {σ D C : Type} (ci : Bool) (P : Params σ D) (gs : Str → List Str)
    (proj : σ → Str → C) (T S : Int) (hc : Contract P gs proj T S) (s0 : σ) :
    ∀ (ts : List (Str × Str)) (s : σ),
    (ts.map (·.1)).Pairwise (Disj gs) → (∀ t ∈ ts, ∀ g ∈ gs t.1, proj s g = proj s0 g) →
    (seqRun ci P s ts).state
        = (commitPure P.apply s (ts.map (fun t => P.compute s0 t.1 t.2))).state ∧
    (seqRun ci P s ts).lines
        = (commitPure P.apply s (ts.map (fun t => P.compute s0 t.1 t.2))).lines ∧
    ∀ p, fileOf p (seqRun ci P s ts).written
        = fileOf p ((logArrivals (ts.map (fun t => P.compute s0 t.1 t.2))).map (arrLine ci)) ++
          fileOf p ((commitPure P.apply s (ts.map (fun t => P.compute s0 t.1 t.2))).arrs.map (arrLine ci)) := by
  intro ts
  induction ts with
  | nil => intro s _ _; simp [seqRun, commitPure, logArrivals, fileOf]
  | cons t ts ih =>
    intro s hp ha
    have hcomp : P.compute s t.1 t.2 = P.compute s0 t.1 t.2 :=
      hc.reads_own s s0 t.1 t.2 (ha t List.mem_cons_self)
    rw [List.map_cons, List.pairwise_cons] at hp
    -- the later tasks' graphs are not touched by this commit
    have hagree : ∀ u ∈ ts, ∀ g ∈ gs u.1,
        proj (P.apply s (P.compute s0 t.1 t.2).deltas).1 g = proj s0 g := fun u hu g hg =>
      (hc.writes_own s s0 t.1 t.2 g fun hgt => hp.1 u.1 (List.mem_map_of_mem hu) g hgt hg).trans
        (ha u (List.mem_cons_of_mem _ hu) g hg)
    have ih := ih (P.apply s (P.compute s0 t.1 t.2).deltas).1 hp.2 hagree
    have hlogs : ∀ x ∈ (logArrivals (ts.map fun t => P.compute s0 t.1 t.2)).map (arrLine ci),
        x.1 ≠ applyPath := by
      intro x hx
      obtain ⟨a, ha', rfl⟩ := List.mem_map.mp hx
      obtain ⟨b, hb, l, hl, rfl⟩ := logArrivals_mem _ a ha'
      obtain ⟨u, _, rfl⟩ := List.mem_map.mp hb
      exact hc.no_apply_log s0 u.1 u.2 l hl
    simp only [seqRun, List.map_cons, commitPure, hcomp]
    generalize P.compute s0 t.1 t.2 = b at ih ⊢
    generalize P.apply s b.deltas = r at ih ⊢
    refine ⟨ih.1, by rw [ih.2.1], fun p => ?_⟩
    -- per file, the apply record may be moved behind the captured logs of the later tasks
    have hcomm := fileOf_comm p applyPath _ [seqLine ci (applyPath, applyRec b r.2)] hlogs
      (fun y hy => by rw [List.mem_singleton.mp hy]; rfl)
    rw [fileOf_append, fileOf_append, ih.2.2 p, logArrivals_cons_lines, fileOf_append,
      arrLine_applyArrival, fileOf_cons_append p _ (List.map _ _),
      List.append_assoc, ← List.append_assoc (fileOf p [_]), hcomm]
    simp only [List.append_assoc]

theorem sortBuffers_const {D : Type} (T S : Int) (bs : List (Buffer D))
    (h : ∀ b ∈ bs, b.turn = T ∧ b.slice = S) : sortBuffers bs = bs :=
  isort_of_pairwise _ <| List.pairwise_of_forall_mem_list fun b hb c hc => by
    simp [bufLe, (h b hb).1, (h b hb).2, (h c hc).1, (h c hc).2]

theorem commitPure_arrs_key {σ D : Type} (apply : σ → D → σ × ApplyOut) (T S : Int)
    (bs : List (Buffer D)) (hk : ∀ b ∈ bs, b.turn = T ∧ b.slice = S) (s : σ) (a : Arrival)
    (h : a ∈ (commitPure apply s bs).arrs) : a.turn = T ∧ a.slice = S := by
  induction bs generalizing s with
  | nil => cases h
  | cons b bs ih =>
    rw [commitPure, List.mem_cons] at h
    rcases h with rfl | h
    · exact hk b List.mem_cons_self
    · exact ih (fun x hx => hk x (List.mem_cons_of_mem _ hx)) _ h

/-! ### the parallel path in pure form -/

/-- all staging requests of a batch: captured logs of the buffers in collection order, then one
apply record per buffer in commit order. -/
def allArrivals {σ D : Type} (P : Params σ D) (s0 : σ) (bufs : List (Buffer D)) : List Arrival :=
  logArrivals bufs ++ (commitPure P.apply s0 (sortBuffers bufs)).arrs

def bufsOf {σ D : Type} (P : Params σ D) (gs : Str → List Str) (mw : Int) (s0 : σ)
    (tasks : List (Str × Str)) : List (Buffer D) :=
  (computed gs mw tasks).map (fun t => P.compute s0 t.1 t.2)

/-- The parallel path against the C16 staged run of all its arrivals: it finishes iff that run
does, and then state and results are the pure commit's and the writer gets the run's records. -/
theorem runPar_spec {σ D : Type} (ci : Bool) (limit : Int) (P : Params σ D) (gs : Str → List Str)
    (mw : Int) (s0 : σ) (tasks : List (Str × Str)) :
    (runPar ci limit P gs mw s0 tasks).ok
      = (runBatch ci limit (allArrivals P s0 (bufsOf P gs mw s0 tasks))).2 ∧
    ((runPar ci limit P gs mw s0 tasks).ok = true →
      (runPar ci limit P gs mw s0 tasks).state
        = (commitPure P.apply s0 (sortBuffers (bufsOf P gs mw s0 tasks))).state ∧
      (runPar ci limit P gs mw s0 tasks).lines
        = (commitPure P.apply s0 (sortBuffers (bufsOf P gs mw s0 tasks))).lines ∧
      (runPar ci limit P gs mw s0 tasks).written
        = (runBatch ci limit (allArrivals P s0 (bufsOf P gs mw s0 tasks))).1.map (lineOf ci)) := by
  unfold runPar bufsOf
  generalize (computed gs mw tasks).map (fun t => P.compute s0 t.1 t.2) = bufs
  have cp := commitLoop_pure ci P.apply (sortBuffers bufs)
    (loopRun ci ⟨Stager.new limit, []⟩ (logArrivals bufs)).1 s0
  unfold runBatch allArrivals
  rw [loopRun_append]
  by_cases h1 : (loopRun ci ⟨Stager.new limit, []⟩ (logArrivals bufs)).2 = true
  · simp only [h1, if_true]
    rw [← cp.1, ← cp.2.1]
    by_cases hc : (commitLoop ci P.apply (loopRun ci ⟨Stager.new limit, []⟩ (logArrivals bufs)).1 s0
        (sortBuffers bufs)).ok = true
    · simp only [hc, if_true]
      exact ⟨trivial, fun _ => ⟨(cp.2.2 hc).1, (cp.2.2 hc).2, trivial⟩⟩
    · simp only [hc, if_false, Bool.false_eq_true]
      exact ⟨trivial, fun h => h.elim⟩
  · simp only [h1, if_false, Bool.false_eq_true]
    exact ⟨trivial, fun h => h.elim⟩

/-- What a finished batch whose buffers all carry the batch's `(turn, slice)` leaves in each file: the file's arrivals in arrival order — no trace of
the limit or of the back-pressure flushes. -/
theorem runPar_files {σ D : Type} (ci : Bool) (limit : Int) (P : Params σ D) (gs : Str → List Str)
    (mw : Int) (s0 : σ) (tasks : List (Str × Str)) (T S : Int)
    (hkey : ∀ b ∈ bufsOf P gs mw s0 tasks, b.turn = T ∧ b.slice = S)
    (hok : (runPar ci limit P gs mw s0 tasks).ok = true) (p : Str) :
    fileOf p (runPar ci limit P gs mw s0 tasks).written
      = fileOf p ((allArrivals P s0 (bufsOf P gs mw s0 tasks)).map (arrLine ci)) := by
  have sp := runPar_spec ci limit P gs mw s0 tasks
  -- buffers that all carry the batch's `(turn, slice)` give key-monotone arrivals
  have hmono : monoPerFileB (allArrivals P s0 (bufsOf P gs mw s0 tasks)) = true := by
    refine monoPerFileB_of_const T S _ fun a ha => ?_
    rcases List.mem_append.mp ha with h | h
    · obtain ⟨b, hb, l, _, rfl⟩ := logArrivals_mem _ a h
      exact hkey b hb
    · rw [sortBuffers_const T S _ hkey] at h
      exact commitPure_arrs_key P.apply T S _ hkey s0 a h
  rw [(sp.2 hok).2.2, fileOf_map_lineOf,
    runBatch_perfile (Prod.ext rfl (sp.1.symm.trans hok)) hmono p, ← fileOf_map_lineOf,
    map_lineOf_mkRecs]

/-! ### the scripted world satisfies the contract -/

theorem lookup_setG_ne (g g' : Str) (inc : Int) (h : g ≠ g') (l : List (Str × Int)) :
    (setG g' inc l).lookup g = l.lookup g := by
  induction l with
  | nil => rw [setG, List.lookup_cons, beq_eq_false_iff_ne.mpr h]
  | cons e l ih =>
    rw [setG]
    by_cases he : (e.1 == g') = true
    · rw [if_pos he, List.lookup_cons, List.lookup_cons,
        beq_eq_false_iff_ne.mpr (fun e' => h (e'.trans (beq_iff_eq.mp he)))]
    · rw [if_neg he, List.lookup_cons, List.lookup_cons, ih]

theorem lookup_applyDeltas (g : Str) (ds gr : List (Str × Int)) (h : ∀ d ∈ ds, d.1 ≠ g) :
    (applyDeltas gr ds).lookup g = gr.lookup g :=
  Fold.foldl_invariant (fun x : List (Str × Int) => x.lookup g = gr.lookup g) _ ds
    (fun _ d hd hs => (lookup_setG_ne g d.1 d.2 (fun e => h d hd e.symm) _).trans hs) rfl

/-- the script the world runs for task `(a, t)` obeys the contract clauses when the table does. -/
theorem script_ok (gs : Str → List Str) (T S : Int) (scripts : List ((Str × Str) × Script))
    (h : scriptsOkB gs T S scripts = true) (a t : Str) :
    let sc := (scripts.lookup (a, t)).getD (emptyScript T S)
    (∀ g ∈ sc.reads, g ∈ gs a) ∧ (∀ d ∈ sc.deltas, d.1 ∈ gs a) ∧
    (∀ l ∈ sc.logs, l.1 ≠ applyPath) ∧ sc.turn = T ∧ sc.slice = S := by
  cases hl : scripts.lookup (a, t) with
  | none => exact ⟨fun _ h => (nomatch h), fun _ h => (nomatch h), fun _ h => (nomatch h), rfl, rfl⟩
  | some sc =>
    have hm : ((a, t), sc) ∈ scripts := by
      obtain ⟨l₁, l₂, e, _⟩ := List.lookup_eq_some_iff.mp hl
      exact e ▸ List.mem_append_right _ List.mem_cons_self
    have h' := List.all_eq_true.mp h _ hm
    simp only [List.all_eq_true, Bool.and_eq_true, decide_eq_true_eq,
      List.contains_iff_mem, Bool.not_eq_eq_eq_not, Bool.not_true, beq_eq_false_iff_ne] at h'
    obtain ⟨⟨⟨⟨h1, h2⟩, h3⟩, h4⟩, h5⟩ := h'
    exact ⟨h1, h2, h3, h4, h5⟩

/-! ### monitors = the Prop-level statements -/

theorem disjointB_iff_Disj (gs : Str → List Str) (a b : Str) :
    disjointB (gs a) (gs b) = true ↔ Disj gs a b := by
  rw [disjointB_iff]
  constructor
  · intro h g hga hgb; exact h g hgb hga
  · intro h x hxb hxa; exact h x hxa hxb

theorem pairwiseDisjointB_iff (gs : Str → List Str) (l : List Str) :
    pairwiseDisjointB gs l = true ↔ l.Pairwise (Disj gs) := by
  induction l with
  | nil => exact ⟨fun _ => List.Pairwise.nil, fun _ => rfl⟩
  | cons a as ih =>
    simp only [pairwiseDisjointB, Bool.and_eq_true, List.all_eq_true, List.pairwise_cons, ih,
      disjointB_iff_Disj]

/-- `sublistB` is the library's subsequence test. -/
theorem sublistB_iff (as bs : List Str) : sublistB as bs = true ↔ as.Sublist bs := by
  refine (Eq.congr_left ?_).trans List.isSublist_iff_sublist
  fun_induction sublistB as bs with
  | case1 => simp [List.isSublist]
  | case2 => rfl
  | case3 a as b bs h ih => rw [List.isSublist, if_pos h, ih]
  | case4 a as b bs h ih => rw [List.isSublist, if_neg h, ih]

theorem seqRun_ok {σ D : Type} (ci : Bool) (P : Params σ D) : ∀ (ts : List (Str × Str)) (s : σ),
    (seqRun ci P s ts).ok = true
  | [], _ => rfl
  | _ :: _, _ => rfl

end Clem.Batch
