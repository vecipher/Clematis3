import Clem.Model.KeySuff
import Clem.Proofs.LruBytes

/-! Generic cache transparency + the `LRUBytes` instance. -/
namespace Clem.KeySuff

variable {σ K V X : Type}

theorem good_step (C : CacheSem σ K V) (key : X → K) (f : X → V) (s : σ) (e : Ev X)
    (hg : Good C key f s) : Good C key f (stepCached C key f s e).1 := by
  cases e with
  | other t =>
    intro k v h
    exact hg k v (C.other_mono s t k v h)
  | req x =>
    simp only [stepCached]
    cases hr : (C.get s (key x)).2 with
    | some v =>
      simp only
      intro k' v' h
      exact hg k' v' (C.get_mono s (key x) k' v' h)
    | none =>
      simp only
      intro k' v' h
      rcases C.put_mono _ _ _ _ _ h with h | ⟨hk, hv⟩
      · exact hg k' v' (C.get_mono s (key x) k' v' h)
      · exact ⟨x, hk.symm, hv.symm⟩

theorem out_step (C : CacheSem σ K V) (key : X → K) (f : X → V) (hs : Sufficient key f)
    (s : σ) (e : Ev X) (hg : Good C key f s) :
    (stepCached C key f s e).2 = stepUncached f e := by
  cases e with
  | other t => rfl
  | req x =>
    simp only [stepCached, stepUncached]
    cases hr : (C.get s (key x)).2 with
    | none => rfl
    | some v =>
      simp only
      obtain ⟨x', hk, hv⟩ := hg _ _ (C.get_hit s (key x) v hr)
      rw [← hv, hs x' x hk]

/-- **Transparency.** With a sufficient key, a cached run over ANY history (requests
interleaved with arbitrary other cache operations), from any state whose
contents were computed by `f`, returns exactly what the uncached run returns. -/
theorem transparent_of_sufficient (C : CacheSem σ K V) (key : X → K) (f : X → V)
    (hs : Sufficient key f) (es : List (Ev X)) (s : σ) (hg : Good C key f s) :
    runCached C key f s es = runUncached f es := by
  induction es generalizing s with
  | nil => rfl
  | cons e es ih =>
    simp only [runCached, runUncached, List.map_cons]
    rw [out_step C key f hs s e hg]
    congr 1
    exact ih _ (good_step C key f s e hg)

theorem good_of_empty (C : CacheSem σ K V) (key : X → K) (f : X → V) (s : σ)
    (h : ∀ k v, ¬ C.holds s k v) : Good C key f s := fun k v hh => absurd hh (h k v)

end Clem.KeySuff

/-! ### `LRUBytes` is a cache semantics -/
namespace Clem.LruBytes
open Clem.KeySuff

def Holds (s : State) (k v : Nat) : Prop := ∃ e ∈ s.items, e.key = k ∧ e.val = v

theorem mem_without {k : Nat} {l : List Entry} {e : Entry} (h : e ∈ without k l) : e ∈ l :=
  (List.mem_filter.mp h).1

theorem lookup_some_mem {k : Nat} {l : List Entry} {e : Entry} (h : lookup k l = some e) :
    e ∈ l ∧ e.key = k :=
  KeyedList.find?_some h

theorem holds_get_hit (s : State) (k v : Nat) (h : (get s k).2 = some v) : Holds s k v := by
  unfold get at h
  split at h
  · cases h
  · next e he => exact ⟨e, (lookup_some_mem he).1, (lookup_some_mem he).2, Option.some.inj h⟩

theorem holds_get_mono (s : State) (k k' v' : Nat) (h : Holds (get s k).1 k' v') : Holds s k' v' := by
  unfold get at h
  split at h
  · exact h
  · next e he =>
    obtain ⟨e', hm, hkv⟩ := h
    rcases List.mem_append.mp hm with hm | hm
    · exact ⟨e', mem_without hm, hkv⟩
    · exact ⟨e', List.mem_singleton.mp hm ▸ (lookup_some_mem he).1, hkv⟩

theorem holds_put_mono (s : State) (k v : Nat) (c : Int) (k' v' : Nat)
    (h : Holds (put s k v c).1 k' v') : Holds s k' v' ∨ (k' = k ∧ v' = v) := by
  by_cases hrej : (s.maxE = 0 ∧ s.maxB = 0) ∨ (0 < s.maxB ∧ s.maxB < c.toNat)
  · rw [put_rejected s k v c hrej] at h; exact Or.inl h
  · rw [put_accepted s k v c hrej] at h
    obtain ⟨e', hm, hk, hv⟩ := h
    -- the survivors are a suffix of the reinserted list
    have : e' ∈ without k s.items ++ [⟨k, v, c.toNat⟩] := by
      rw [(evictLoop_spec s.maxE s.maxB (without k s.items ++ [(⟨k, v, c.toNat⟩ : Entry)])
        (bytesWithout s k + c.toNat)).1]
      exact List.mem_append_right _ hm
    rcases List.mem_append.mp this with hm' | hm'
    · exact Or.inl ⟨e', mem_without hm', hk, hv⟩
    · cases List.mem_singleton.mp hm'; exact Or.inr ⟨hk.symm, hv.symm⟩

/-- `LRUBytes` (any caps, any cost function, `clear` as the other operation) as a `CacheSem`. -/
def cacheSem (cost : Nat → Nat → Int) : CacheSem State Nat Nat where
  get := get
  put := fun s k v => (put s k v (cost k v)).1
  other := fun s _ => clear s
  holds := Holds
  get_hit := holds_get_hit
  get_mono := holds_get_mono
  put_mono := fun s k v k' v' h => holds_put_mono s k v (cost k v) k' v' h
  other_mono := by
    intro s t k' v' h
    obtain ⟨e, hm, _⟩ := h
    simp [clear] at hm

end Clem.LruBytes
