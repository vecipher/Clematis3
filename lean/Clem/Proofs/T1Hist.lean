import Clem.Proofs.T1Cases

/-!
History invariant of the T1 model: every event in the log is justified by the history before it
(the spreading rule for relaxations, node-budget tests against the accumulator value of that moment,
pushes stem from the relaxation just made, pops stem from a seed or an earlier push), and the
accumulator equals the seed weight plus the logged contributions, added in log order.  Second half:
the reach invariant (`Reach`, `ReachInv`) — distances are lengths of walks from a seed.
-/

namespace Clem.T1
open Num

variable {α : Type} [Num α]
set_option linter.unusedSectionVars false

/-- accumulator value of `v` determined by the event log (newest first): `0.0`, then `+ 1.0` for a
seeding of `v` and `+ contrib` for every relaxation into `v`, in chronological order. -/
def accOf : List (Ev α) → Nat → α
  | [], _ => zero
  | Ev.seed u :: r, v => if u = v then add (accOf r v) one else accOf r v
  | Ev.relax l :: r, v => if l.dst = v then add (accOf r v) l.contrib else accOf r v
  | Ev.pop _ _ :: r, v => accOf r v
  | Ev.visitedSkip _ :: r, v => accOf r v
  | Ev.layerStop _ :: r, v => accOf r v
  | Ev.nodeHitPop _ _ :: r, v => accOf r v
  | Ev.expand _ _ :: r, v => accOf r v
  | Ev.radiusSkip _ _ _ :: r, v => accOf r v
  | Ev.layerSkip _ _ _ :: r, v => accOf r v
  | Ev.epsSkip _ _ _ _ :: r, v => accOf r v
  | Ev.nodeHitPush _ _ :: r, v => accOf r v
  | Ev.dedupHit _ :: r, v => accOf r v
  | Ev.push _ _ _ :: r, v => accOf r v

/-- The documented spreading rule for one logged relaxation. -/
def RuleOK (c : Cfg α) (g : Graph α) (l : LogE α) : Prop :=
  l.contrib = mul (mul (mul l.w l.weight) l.mult) l.decay ∧
  decayOf c l.d = some l.decay ∧
  l.mult = multOf c l.rel ∧
  (∃ e ∈ g.edges, e.src = l.src ∧ e.dst = l.dst ∧ e.weight = l.weight ∧ e.rel = l.rel) ∧
  l.d = l.dsrc + 1 ∧ (l.d : Int) ≤ c.radiusCap ∧ (l.d : Int) ≤ effLayers c ∧
  lt (abs l.contrib) c.eps = false

/-- where a queue item / a popped pair comes from -/
def Origin (seeds : List Nat) (u : Nat) (w : α) (evs : List (Ev α)) : Prop :=
  (w = one ∧ u ∈ seeds) ∨ ∃ a, Ev.push u w a ∈ evs

def EvOK (c : Cfg α) (g : Graph α) (seeds : List Nat) : Ev α → List (Ev α) → Prop
  | Ev.seed u, _ => u ∈ seeds
  | Ev.pop u w, rest => Origin seeds u w rest
  | Ev.relax l, rest =>
      RuleOK c g l ∧ l.accNew = add (accOf rest l.dst) l.contrib ∧ lastPop rest = some (l.src, l.w)
  | Ev.expand u a, rest => a = accOf rest u ∧ le c.nodeBudget (abs a) = false
  | Ev.nodeHitPop u a, rest => a = accOf rest u ∧ le c.nodeBudget (abs a) = true
  | Ev.push v x a, rest =>
      a = accOf rest v ∧ lt (abs a) c.nodeBudget = true ∧
      ∃ l r', rest = Ev.relax l :: r' ∧ l.dst = v ∧ l.contrib = x
  | Ev.nodeHitPush v a, rest =>
      a = accOf rest v ∧ lt (abs a) c.nodeBudget = false ∧
      ∃ l r', rest = Ev.relax l :: r' ∧ l.dst = v
  | Ev.epsSkip _ _ _ x, _ => lt (abs x) c.eps = true
  | Ev.radiusSkip _ _ d, _ => (d : Int) > c.radiusCap
  | Ev.layerSkip _ _ d, _ => (d : Int) > effLayers c
  | Ev.visitedSkip _, _ => True
  | Ev.layerStop _, _ => True
  | Ev.dedupHit _, _ => True

def EvsOK (c : Cfg α) (g : Graph α) (seeds : List Nat) : List (Ev α) → Prop
  | [] => True
  | e :: rest => EvOK c g seeds e rest ∧ EvsOK c g seeds rest

structure Hist (c : Cfg α) (g : Graph α) (seeds : List Nat) (st : St α) : Prop where
  evs : EvsOK c g seeds st.evs
  acc : ∀ v, accGet st.acc v = accOf st.evs v
  pq : ∀ it ∈ st.pq, it.k = neg (abs it.w) ∧ Origin seeds it.id it.w st.evs

theorem Origin_mono {seeds : List Nat} {u : Nat} {w : α} {evs : List (Ev α)} (e : Ev α)
    (h : Origin seeds u w evs) : Origin seeds u w (e :: evs) := by
  rcases h with h | ⟨a, h⟩
  · exact Or.inl h
  · exact Or.inr ⟨a, by simp [h]⟩

/-- recording an event the history justifies, with the accumulator following `accOf` and every new queue
item keyed by its weight and stemming from the log, keeps the invariant -/
theorem Hist_cons {c : Cfg α} {g : Graph α} {seeds : List Nat} {st st' : St α} (e : Ev α)
    (hevs : st'.evs = e :: st.evs) (hok : EvOK c g seeds e st.evs)
    (hacc : ∀ v, accGet st'.acc v = accOf (e :: st.evs) v)
    (hpq : ∀ it ∈ st'.pq, it ∈ st.pq ∨ it.k = neg (abs it.w) ∧ Origin seeds it.id it.w (e :: st.evs))
    (h : Hist c g seeds st) : Hist c g seeds st' := by
  refine ⟨?_, ?_, fun it hit => ?_⟩
  · rw [hevs]; exact ⟨hok, h.evs⟩
  · rw [hevs]; exact hacc
  · rw [hevs]
    exact (hpq it hit).elim (fun h1 => ⟨(h.pq it h1).1, Origin_mono e (h.pq it h1).2⟩) id

theorem sameCore_dist {st st2 : St α} (h : sameCore st st2) : st2.dist = st.dist := by
  unfold sameCore at h; rw [h]
theorem sameCore_stop {st st2 : St α} (h : sameCore st st2) : st2.stop = st.stop := by
  unfold sameCore at h; rw [h]

namespace LogOK

/-- the test recorded with a log-only event is the one `EvOK` asks for, the accumulator being the one
determined by the log -/
theorem evOK {c : Cfg α} {g : Graph α} {seeds : List Nat} {st : St α} {e : Ev α}
    (hok : LogOK c st e) (hacc : ∀ v, accGet st.acc v = accOf st.evs v) : EvOK c g seeds e st.evs := by
  cases e with
  | seed _ | pop _ _ | relax _ | push _ _ _ => exact hok.elim
  | nodeHitPop u a | expand u a => exact ⟨hok.1.trans (hacc u), hok.2⟩
  | nodeHitPush v a => exact ⟨hok.1.trans (hacc v), hok.2⟩
  | visitedSkip _ | layerStop _ | dedupHit _ => trivial
  | radiusSkip _ _ _ | layerSkip _ _ _ | epsSkip _ _ _ _ => exact hok

theorem accOf {c : Cfg α} {st : St α} {e : Ev α} (hok : LogOK c st e) (r : List (Ev α)) (v : Nat) :
    accOf (e :: r) v = accOf r v := by
  cases e with
  | seed _ | relax _ => exact hok.elim
  | _ => rfl

end LogOK

theorem accGet_accAdd_accOf {acc : List (Nat × α)} {evs : List (Ev α)}
    (h : ∀ v, accGet acc v = accOf evs v) (u : Nat) (x : α) (v : Nat) :
    accGet (accAdd acc u x) v = if u = v then add (accOf evs v) x else accOf evs v := by
  rw [accGet_accAdd]
  by_cases hv : v = u
  · subst hv; simp [h]
  · simp [hv, Ne.symm hv, h]

theorem Hist_final (c : Cfg α) (g : Graph α) (text : List Nat) :
    Hist c g (seedsOf g text) (finalSt c g text) := by
  refine finalSt_induct (c := c) (fun st st' h hs => ?_) rfl
    ⟨trivial, fun _ => rfl, fun _ hit => nomatch hit⟩ (fun st it rest h hp => ?_)
  · cases hs with
    | seed nid pq ring hn hpush =>
      refine Hist_cons (Ev.seed nid) rfl hn (accGet_accAdd_accOf h.acc nid one) (fun it hit => ?_) h
      rcases hpush with ⟨_, hpq, _⟩ | ⟨_, hpq, _⟩
      · exact .inl (hpq ▸ hit)
      · rcases mem_pushCap _ _ _ _ (hpq ▸ hit) with rfl | h1
        · exact .inr ⟨rfl, .inl ⟨rfl, hn⟩⟩
        · exact .inl h1
    | log e hok =>
      exact Hist_cons e rfl (hok.evOK h.acc) (fun v => (h.acc v).trans (hok.accOf _ v).symm)
        (fun _ hx => .inl hx) h
    | tally | mark | halt => exact ⟨h.evs, h.acc, h.pq⟩
    | relax e u w dec he hs hlp _ hdec h1 h2 h3 =>
      have hacc := accGet_accAdd_accOf h.acc e.dst (mul (mul (mul w e.weight) (multOf c e.rel)) dec)
      exact Hist_cons _ rfl
        ⟨⟨rfl, hdec, rfl, ⟨e, he, hs, rfl, rfl, rfl⟩, rfl, h1, h2, h3⟩, (hacc e.dst).trans (if_pos rfl), hlp⟩
        hacc (fun _ hx => .inl hx) h
    | push v x l r' hl hd hx _ _ hb =>
      refine Hist_cons _ rfl ⟨h.acc v, hb, l, r', hl, hd, hx⟩ h.acc (fun it hit => ?_) h
      rcases mem_pushCap _ _ _ _ hit with rfl | h1
      · exact .inr ⟨rfl, .inr ⟨accGet st.acc v, List.mem_cons_self⟩⟩
      · exact .inl h1
  · have hm := (popMin_perm hp).subset
    exact Hist_cons (Ev.pop it.id it.w) rfl (h.pq it (hm List.mem_cons_self)).2 h.acc
      (fun x hx => .inl (hm (List.mem_cons_of_mem _ hx))) h

theorem EvsOK_mem {c : Cfg α} {g : Graph α} {seeds : List Nat} :
    ∀ {evs : List (Ev α)} {e : Ev α}, EvsOK c g seeds evs → e ∈ evs →
      ∃ pre rest, evs = pre ++ e :: rest ∧ EvOK c g seeds e rest
  | [], _, _, h => by simp at h
  | a :: r, e, hok, h => by
    rcases List.mem_cons.mp h with h | h
    · subst h; exact ⟨[], r, rfl, hok.1⟩
    · obtain ⟨pre, rest, h1, h2⟩ := EvsOK_mem hok.2 h
      exact ⟨a :: pre, rest, by simp [h1], h2⟩

/-! ## reach

Every node with a distance entry is reachable from a seed by a walk of exactly that many edges, within
the radius and layer caps; every queued / touched node has a distance entry (so `dist[u]` never raises);
accumulator keys are unique. -/

/-- `Reach g seeds v d`: there is a walk of `d` edges of `g` from some seed to `v`. -/
inductive Reach (g : Graph α) (seeds : List Nat) : Nat → Nat → Prop
  | seed {s : Nat} : s ∈ seeds → Reach g seeds s 0
  | step {u d : Nat} (e : Edge α) : Reach g seeds u d → e ∈ g.edges → e.src = u →
      Reach g seeds e.dst (d + 1)

structure ReachInv (c : Cfg α) (g : Graph α) (seeds : List Nat) (st : St α) : Prop where
  dist : ∀ v d, st.dist.lookup v = some d →
    Reach g seeds v d ∧ (d = 0 ∨ ((d : Int) ≤ c.radiusCap ∧ (d : Int) ≤ effLayers c))
  pq : ∀ it ∈ st.pq, (st.dist.lookup it.id).isSome
  acc : ∀ k ∈ st.acc.map (·.1), (st.dist.lookup k).isSome
  nodup : (st.acc.map (·.1)).Nodup
  /-- the node being expanded has a distance (`dist[u] + 1` cannot raise) -/
  cur : ∀ u w, lastPop st.evs = some (u, w) → (st.dist.lookup u).isSome

/-- A step that gives `k` a distance `d0` witnessed by a walk (or keeps its older one), touches no other
distance, adds to `acc[k]` and queues nothing but `k`: both seeding and relaxing are of this kind. -/
theorem ReachInv_touch {c : Cfg α} {g : Graph α} {seeds : List Nat} {st st' : St α} {k d0 : Nat} {x : α}
    (h : ReachInv c g seeds st) (hr : Reach g seeds k d0)
    (hcap : d0 = 0 ∨ ((d0 : Int) ≤ c.radiusCap ∧ (d0 : Int) ≤ effLayers c))
    (hd : (st'.dist.lookup k).isSome ∧
      ∀ v, st'.dist.lookup v = st.dist.lookup v ∨ v = k ∧ st'.dist.lookup v = some d0)
    (hpq : ∀ it ∈ st'.pq, it ∈ st.pq ∨ it.id = k) (hacc : st'.acc = accAdd st.acc k x)
    (hevs : lastPop st'.evs = lastPop st.evs) : ReachInv c g seeds st' := by
  have hmono : ∀ v, (st.dist.lookup v).isSome → (st'.dist.lookup v).isSome := fun v hv => by
    rcases hd.2 v with h1 | ⟨_, h1⟩ <;> rw [h1]
    · exact hv
    · rfl
  refine ⟨fun v d hv => ?_, fun it hit => ?_, fun k' hk => ?_, hacc ▸ accAdd_nodup _ _ _ h.nodup,
    fun u w hu => hmono u (h.cur u w (hevs ▸ hu))⟩
  · rcases hd.2 v with h1 | ⟨rfl, h1⟩ <;> rw [h1] at hv
    · exact h.dist v d hv
    · cases hv; exact ⟨hr, hcap⟩
  · rcases hpq it hit with h1 | h1
    · exact hmono _ (h.pq it h1)
    · exact h1 ▸ hd.1
  · rcases (mem_accAdd_keys _ _ _ _).mp (hacc ▸ hk) with h1 | rfl
    · exact hmono _ (h.acc _ h1)
    · exact hd.1

theorem ReachInv_final (c : Cfg α) (g : Graph α) (text : List Nat) :
    ReachInv c g (seedsOf g text) (finalSt c g text) := by
  refine finalSt_induct (c := c) (fun st st' h hs => ?_) rfl
    ⟨fun _ _ h => (by cases h), fun _ h => (by cases h), fun _ h => (by cases h), List.nodup_nil,
      fun _ _ h => (by cases h)⟩ (fun st it rest h hp => ?_)
  · cases hs with
    | log e hok => exact ⟨h.dist, h.pq, h.acc, h.nodup, fun u w hu => h.cur u w (hok.lastPop _ ▸ hu)⟩
    | tally | mark | halt => exact ⟨h.dist, h.pq, h.acc, h.nodup, h.cur⟩
    | seed nid pq ring hn hpush =>
      refine ReachInv_touch (x := one) h (.seed hn) (.inl rfl) (distSet_touch st.dist nid 0) (fun it hit => ?_)
        rfl rfl
      rcases hpush with ⟨_, hpq, _⟩ | ⟨_, hpq, _⟩
      · exact .inl (hpq ▸ hit)
      · exact (mem_pushCap _ _ _ _ (hpq ▸ hit)).symm.imp_right (congrArg Item.id)
    | push v x l r' _ _ _ hv =>
      refine ⟨h.dist, fun it hit => ?_, h.acc, h.nodup, h.cur⟩
      rcases mem_pushCap _ _ _ _ hit with h1 | h1
      · subst h1; exact h.acc v hv
      · exact h.pq it h1
    | relax e u w dec he hs hlp _ _ h1 h2 =>
      -- `u` has a distance `du`, so `e.dst` is reached by one more edge
      obtain ⟨du, hdu⟩ := Option.isSome_iff_exists.mp (h.cur u w hlp)
      have hget : distGet st.dist u = du := by simp [distGet, hdu]
      rw [hget] at h1 h2 ⊢
      exact ReachInv_touch h (.step e (h.dist u du hdu).1 he hs) (.inr ⟨h1, h2⟩)
        (distRelax_touch st.dist e.dst (du + 1)) (fun _ hit => .inl hit) rfl rfl
  · have hm := (popMin_perm hp).subset
    exact ⟨h.dist, fun x hx => h.pq x (hm (List.mem_cons_of_mem _ hx)), h.acc, h.nodup,
      fun u w hu => by cases hu; exact h.pq it (hm List.mem_cons_self)⟩

end Clem.T1
