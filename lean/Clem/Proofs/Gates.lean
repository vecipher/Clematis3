import Clem.Model.Gates
import Clem.Proofs.Fold

/-!
Soundness of the gate model's syntactic checks (`forced`, `stable`, `eval3`) against `eval`, and what they
buy for runs: sites that pass `siteOK` make `runTurns` blind to the gated subtree while the flag is off,
sites that pass `artOK` never emit the gate's artefacts.  Last, `avoids`: the test by which the table
theorems of C02 skip the sites a gate cannot concern.
-/

namespace Clem.Gates
open Clem.Py

theorem eval_congr_not_mentions {S : List Nat} {c c' : Cfg} (hag : agreeOutside S c c') (x : Ext) :
    ∀ e, mentions S e = false → eval c x e = eval c' x e := by
  intro e
  induction e with
  | leaf i => intro h; simp only [eval, hag i h]
  | gt i n => intro h; simp only [eval, hag i h]
  | not e ih => intro h; simp only [eval, ih h]
  | and a b iha ihb =>
    intro h; simp only [mentions, Bool.or_eq_false_iff] at h
    simp only [eval, iha h.1, ihb h.2]
  | or a b iha ihb =>
    intro h; simp only [mentions, Bool.or_eq_false_iff] at h
    simp only [eval, iha h.1, ihb h.2]
  | _ => intro _; rfl

/-- Three-valued evaluation is sound for every completion of the unknown atoms. -/
theorem eval3_sound (c : Cfg) (x3 : Nat → Option Bool) (x : Ext)
    (href : ∀ j b, x3 j = some b → x j = b) :
    ∀ e b, eval3 c x3 e = some b → eval c x e = b := by
  intro e
  induction e with
  | ext j => exact href j
  | not e ih =>
    intro b h
    obtain ⟨b', hb', rfl⟩ := Option.map_eq_some_iff.mp h
    simp only [eval, ih b' hb']
  | and a b iha ihb =>
    intro r h
    simp only [eval3] at h
    split at h
    · next ha => cases h; simp only [eval, iha _ ha, Bool.false_and]
    · next hb _ => cases h; simp only [eval, ihb _ hb, Bool.and_false]
    · next ha hb => cases h; simp only [eval, iha _ ha, ihb _ hb, Bool.and_self]
    · cases h
  | or a b iha ihb =>
    intro r h
    simp only [eval3] at h
    split at h
    · next ha => cases h; simp only [eval, iha _ ha, Bool.true_or]
    · next hb _ => cases h; simp only [eval, ihb _ hb, Bool.or_true]
    · next ha hb => cases h; simp only [eval, iha _ ha, ihb _ hb, Bool.or_self]
    · cases h
  | _ => intro b h; exact Option.some.inj h

section
variable {σ ι : Type} (W : World σ) (feed : ι → σ → σ) {f : Nat} {c : Cfg} (hf : c f = 0)
include hf

theorem forced_sound (x : Ext) : ∀ e pol, forced f pol e = true → eval c x e = pol := by
  intro e
  induction e with
  | leaf i =>
    intro pol h
    cases pol
    · obtain rfl : i = f := beq_iff_eq.mp h
      simp [eval, hf]
    · cases h
  | gt i n =>
    intro pol h
    cases pol <;> obtain ⟨h1, h2⟩ := Bool.and_eq_true _ _ |>.mp h <;> obtain rfl : i = f := beq_iff_eq.mp h1 <;>
      simpa [eval, hf] using h2
  | ext j => intro pol h; cases pol <;> cases h
  | tt => intro pol h; cases pol <;> first | rfl | cases h
  | ff => intro pol h; cases pol <;> first | rfl | cases h
  | not e ih => intro pol h; cases pol <;> rw [eval, ih _ h] <;> rfl
  | and a b iha ihb =>
    intro pol h
    cases pol with
    | false =>
      rcases Bool.or_eq_true _ _ |>.mp h with h | h
      · rw [eval, iha false h, Bool.false_and]
      · rw [eval, ihb false h, Bool.and_false]
    | true =>
      have h := Bool.and_eq_true _ _ |>.mp h
      rw [eval, iha true h.1, ihb true h.2, Bool.and_self]
  | or a b iha ihb =>
    intro pol h
    cases pol with
    | false =>
      have h := Bool.and_eq_true _ _ |>.mp h
      rw [eval, iha false h.1, ihb false h.2, Bool.or_self]
    | true =>
      rcases Bool.or_eq_true _ _ |>.mp h with h | h
      · rw [eval, iha true h, Bool.true_or]
      · rw [eval, ihb true h, Bool.or_true]

theorem forcedOff_sound (x : Ext) (e : GExpr) (h : forcedOff f e = true) : eval c x e = false :=
  forced_sound hf x e false h

section
variable {arts : List Nat}

/-- Artefacts: a step keeps "no artefact of the gate emitted so far". -/
theorem stepSite_noart (s : Site) (hok : artOK f arts s = true) (st : σ × List Nat)
    (h : noArtifactB arts st.2 = true) : noArtifactB arts (stepSite W c st s).2 = true := by
  unfold stepSite
  cases hev : eval c (W.ext st.1) s.guard
  · exact h
  · rcases Bool.or_eq_true _ _ |>.mp hok with hfo | hem
    · rw [forcedOff_sound hf _ _ hfo] at hev; cases hev
    · show noArtifactB arts (st.2 ++ s.emits) = true
      simp only [noArtifactB, List.all_append, Bool.and_eq_true] at h ⊢
      exact ⟨h, hem⟩

theorem runSites_noart (tbl : List Site) (hok : artTableOK f arts tbl = true) (st : σ × List Nat)
    (h : noArtifactB arts st.2 = true) : noArtifactB arts (runSites W c tbl st).2 = true :=
  Fold.foldl_invariant (fun st => noArtifactB arts st.2 = true) _ tbl
    (fun st s hs h => stepSite_noart W hf s (List.all_eq_true.mp hok s hs) st h) h

theorem runTurns_noart (tbl : List Site) (hok : artTableOK f arts tbl = true) (inputs : List ι)
    (st : σ × List Nat) (h : noArtifactB arts st.2 = true) :
    noArtifactB arts (runTurns W feed c tbl inputs st).2 = true :=
  Fold.foldl_invariant (fun st : σ × List Nat => noArtifactB arts st.2 = true) _ inputs
    (fun st i _ h => runSites_noart W hf tbl hok (feed i st.1, st.2) h) h

end

variable {S : List Nat} {c' : Cfg} (hf' : c' f = 0) (hag : agreeOutside S c c')
include hf' hag

theorem stable_sound (x : Ext) : ∀ e, stable f S e = true → eval c x e = eval c' x e := by
  intro e
  have off : ∀ e, forcedOff f e = true → eval c x e = eval c' x e := fun e h => by
    rw [forcedOff_sound hf x e h, forcedOff_sound hf' x e h]
  have base : ∀ e, (forcedOff f e || !(mentions S e)) = true → eval c x e = eval c' x e := fun e h =>
    (Bool.or_eq_true _ _ |>.mp h).elim (off e) fun h =>
      eval_congr_not_mentions hag x e (Bool.not_eq_true' _ |>.mp h)
  induction e with
  | not e ih => intro h; simp only [eval, ih h]
  | and a b iha ihb =>
    intro h
    rcases Bool.or_eq_true _ _ |>.mp h with h | h
    · exact off _ h
    · simp only [eval, iha (Bool.and_eq_true _ _ |>.mp h).1, ihb (Bool.and_eq_true _ _ |>.mp h).2]
  | or a b iha ihb =>
    intro h
    simp only [eval, iha (Bool.and_eq_true _ _ |>.mp h).1, ihb (Bool.and_eq_true _ _ |>.mp h).2]
  | _ => exact base _

theorem stepSite_inert (s : Site) (hok : siteOK f S s = true) (st : σ × List Nat) :
    stepSite W c st s = stepSite W c' st s := by
  simp only [siteOK, Bool.and_eq_true, Bool.or_eq_true] at hok
  obtain ⟨hst, hrd⟩ := hok
  unfold stepSite
  rw [← stable_sound hf hf' hag (W.ext st.1) s.guard hst]
  cases hev : eval c (W.ext st.1) s.guard
  · rfl
  · rcases hrd with hfo | hrd
    · rw [forcedOff_sound hf _ _ hfo] at hev; cases hev
    · rw [List.map_congr_left fun r hr => hag r (by simpa using List.all_eq_true.mp hrd r hr)]

theorem runSites_inert (tbl : List Site) (hok : tableOK f S tbl = true) (st : σ × List Nat) :
    runSites W c tbl st = runSites W c' tbl st :=
  List.foldl_rel (r := Eq) rfl fun s hs st _ e =>
    e ▸ stepSite_inert W hf hf' hag s (List.all_eq_true.mp hok s hs) st

theorem runTurns_inert (tbl : List Site) (hok : tableOK f S tbl = true) (inputs : List ι)
    (st : σ × List Nat) : runTurns W feed c tbl inputs st = runTurns W feed c' tbl inputs st :=
  List.foldl_rel (r := Eq) rfl fun _ _ _ _ e => e ▸ runSites_inert W hf hf' hag tbl hok _

end

/-! ### Sites that do not touch the subtree

`siteOK f S` has something to check only at a site that tests or consumes a leaf of `S`.  Whether a site
does is decided on bit masks: `mask S` has bit `i` set iff `i ∈ S`, so two leaf sets are disjoint iff the
`&&&` of their masks is 0 — one operation of the kernel's big-number arithmetic. -/

def mask (S : List Nat) : Nat := S.foldr (fun i m => 2 ^ i ||| m) 0

theorem testBit_mask (S : List Nat) (i : Nat) : (mask S).testBit i = S.contains i := by
  induction S with
  | nil => exact Nat.zero_testBit i
  | cons a S ih =>
    rw [List.contains_cons, ← ih]
    show (2 ^ a ||| mask S).testBit i = _
    rw [Nat.testBit_or, Nat.testBit_two_pow]
    exact congrArg (· || _) (decide_eq_decide.2 eq_comm)

theorem not_contains_of_mask {R S : List Nat} (h : mask R &&& mask S = 0) {r : Nat} (hr : r ∈ R) :
    S.contains r = false := by
  have := congrArg (·.testBit r) h
  simpa [Nat.testBit_and, testBit_mask, hr] using this

/-- The configuration leaves a predicate tests. -/
def leaves : GExpr → List Nat
  | .leaf i => [i]
  | .gt i _ => [i]
  | .not e => leaves e
  | .and a b => leaves a ++ leaves b
  | .or a b => leaves a ++ leaves b
  | _ => []

theorem stable_of_avoids (f : Nat) {S : List Nat} {e : GExpr} (h : ∀ i ∈ leaves e, S.contains i = false) :
    stable f S e = true := by
  induction e with
  | not e ih => exact ih h
  | and a b iha ihb =>
    simp only [leaves, List.mem_append] at h
    simp only [stable, iha fun i hi => h i (.inl hi), ihb fun i hi => h i (.inr hi), Bool.and_self, Bool.or_true]
  | or a b iha ihb =>
    simp only [leaves, List.mem_append] at h
    simp only [stable, iha fun i hi => h i (.inl hi), ihb fun i hi => h i (.inr hi), Bool.and_self]
  | leaf i | gt i _ =>
    show (forcedOff f _ || !(S.contains i)) = true
    rw [h i (List.mem_singleton_self i), Bool.not_false, Bool.or_true]
  | _ => rfl

/-- The site neither tests nor consumes a leaf of `S`. -/
def avoids (S : List Nat) (s : Site) : Bool := mask (leaves s.guard ++ s.reads) &&& mask S == 0

theorem siteOK_of_avoids (f : Nat) {S : List Nat} {s : Site} (h : avoids S s = true) : siteOK f S s = true := by
  have h := @not_contains_of_mask _ S (by simpa [avoids] using h)
  simp only [List.mem_append] at h
  simp only [siteOK, Bool.and_eq_true, Bool.or_eq_true, List.all_eq_true, Bool.not_eq_true']
  exact ⟨stable_of_avoids f fun i hi => h (.inl hi), .inr fun r hr => h (.inr hr)⟩

/-- The form in which `siteOK` is evaluated on a table. -/
theorem siteOK_eq : siteOK = fun f S s => avoids S s || siteOK f S s := by
  funext f S s
  cases h : avoids S s
  · rfl
  · exact siteOK_of_avoids f h

end Clem.Gates
