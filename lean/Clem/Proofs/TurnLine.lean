/-
Token counting lemmas for the turn-line model: `tokenize` counts token starts, counting distributes over `++`,
and replacing a segment that starts with a non-space character by a text with no more tokens (itself starting and
ending with a non-space character) never increases the number of tokens; `strip` keeps the tokens.
-/
import Clem.Model.TurnLine

namespace Clem.T3

/-- `tokAux` emits one token per token start, plus the token it is in the middle of -/
theorem tokAux_length (s : Str) :
    (tokAux [] s).length = cnt true s ∧ ∀ a l, (tokAux (a :: l) s).length = cnt false s + 1 := by
  induction s with
  | nil => exact ⟨rfl, fun _ _ => rfl⟩
  | cons c cs ih =>
    refine ⟨?_, fun a l => ?_⟩ <;> rw [tokAux, cnt] <;> by_cases hc : isSpace c = true
    · rw [if_pos hc, if_pos hc]; exact ih.1
    · rw [if_neg hc, if_neg hc]; exact (ih.2 c []).trans (Nat.add_comm _ _)
    · rw [if_pos hc, if_pos hc]; exact congrArg (· + 1) ih.1
    · rw [if_neg hc, if_neg hc]; exact (ih.2 a _).trans (congrArg (· + 1) (Nat.zero_add _).symm)

theorem tokenize_length (s : Str) : (tokenize s).length = cnt true s := (tokAux_length s).1

/-- whether the last character seen is a space, after reading `a` starting from state `p` -/
def endSpace (p : Bool) : Str → Bool
  | [] => p
  | c :: cs => endSpace (isSpace c) cs

theorem cnt_append (a b : Str) : ∀ p, cnt p (a ++ b) = cnt p a + cnt (endSpace p a) b := by
  induction a with
  | nil => intro p; exact (Nat.zero_add _).symm
  | cons c cs ih =>
    intro p
    rw [List.cons_append, cnt, cnt, endSpace]
    by_cases hc : isSpace c = true
    · rw [if_pos hc, if_pos hc, ih, hc]
    · rw [if_neg hc, if_neg hc, ih, Bool.eq_false_iff.2 hc, Nat.add_assoc]

theorem cnt_false_le (s : Str) (q : Bool) : cnt false s ≤ cnt q s := by
  cases q
  · exact Nat.le_refl _
  · cases s with
    | nil => exact Nat.le_refl _
    | cons c cs =>
      rw [cnt, cnt]
      split
      · exact Nat.le_refl _
      · exact Nat.add_le_add_right (Nat.zero_le 1) _

/-- a text that starts with a non-space character starts a token of its own unless it continues one -/
theorem cnt_head (s : Str) (h : headNonSpace s = true) : cnt true s = cnt false s + 1 := by
  cases s with
  | nil => cases h
  | cons c cs =>
    have hc : ¬ isSpace c = true := Bool.eq_false_iff.1 (Bool.not_inj (y := false) h)
    rw [cnt, cnt, if_neg hc, if_neg hc]
    exact (Nat.add_comm _ _).trans (congrArg (· + 1) (Nat.zero_add _).symm)

theorem endSpace_append (a b : Str) (p : Bool) : endSpace p (a ++ b) = endSpace (endSpace p a) b := by
  induction a generalizing p with
  | nil => rfl
  | cons c cs ih => exact ih _

theorem endSpace_last (s : Str) (h : lastNonSpace s = true) (p : Bool) : endSpace p s = false := by
  have hne : s ≠ [] := by rintro rfl; cases h
  rw [← List.dropLast_concat_getLast hne, endSpace_append]
  rw [lastNonSpace, ← List.dropLast_concat_getLast hne, List.reverse_append] at h
  exact Bool.not_inj (y := false) h

theorem cnt_replace_le (left mid repl right : Str) (hm : headNonSpace mid = true) (hr : headNonSpace repl = true)
    (hl : lastNonSpace repl = true) (hle : cnt true repl ≤ cnt true mid) (p : Bool) :
    cnt p (left ++ repl ++ right) ≤ cnt p (left ++ mid ++ right) := by
  rw [List.append_assoc, List.append_assoc, cnt_append left, cnt_append left, cnt_append repl, cnt_append mid,
    endSpace_last repl hl]
  -- whether or not `left` ends in a space, `repl` and `mid` both start a token or both continue one
  have hseg : ∀ q, cnt q repl ≤ cnt q mid := fun q => by
    cases q
    · exact Nat.le_of_add_le_add_right (cnt_head repl hr ▸ cnt_head mid hm ▸ hle)
    · exact hle
  exact Nat.add_le_add_left (Nat.add_le_add (hseg _) (cnt_false_le right _)) _

theorem cnt_dropWhile (s : Str) : cnt true (s.dropWhile isSpace) = cnt true s := by
  induction s with
  | nil => rfl
  | cons c cs ih =>
    by_cases hc : isSpace c = true
    · rw [List.dropWhile_cons_of_pos hc, ih, cnt, if_pos hc]
    · rw [List.dropWhile_cons_of_neg hc]

theorem cnt_append_spaces (a w : Str) (hw : ∀ c ∈ w, isSpace c = true) (p : Bool) : cnt p (a ++ w) = cnt p a := by
  rw [cnt_append]
  suffices h : ∀ q, cnt q w = 0 from congrArg _ (h _)
  induction w with
  | nil => intro q; rfl
  | cons c cs ih =>
    intro q
    rw [cnt, if_pos (hw c List.mem_cons_self)]
    exact ih (fun x hx => hw x (List.mem_cons_of_mem c hx)) true

theorem cnt_strip (s : Str) : cnt true (strip s) = cnt true s := by
  unfold strip lstrip rstrip
  rw [← cnt_dropWhile s]
  generalize s.dropWhile isSpace = t
  -- `t` is its right-stripped part followed by the trailing spaces
  have ht : (t.reverse.dropWhile isSpace).reverse ++ (t.reverse.takeWhile isSpace).reverse = t := by
    rw [← List.reverse_append, List.takeWhile_append_dropWhile, List.reverse_reverse]
  conv => rhs; rw [← ht]
  rw [cnt_append_spaces]
  intro c hc
  exact List.all_eq_true.1 List.all_takeWhile c (List.mem_reverse.1 hc)

end Clem.T3
