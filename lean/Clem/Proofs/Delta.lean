/-
Helper lemmas for the delta codec (`Clem.Model.Delta`): the path codec, `_set_path` / `_del_path`
seen through `lookup`, membership characterisation of `_walk_diff`'s output.
-/
import Clem.Model.Delta
import Clem.Proofs.Json
import Clem.Proofs.Sort

namespace Clem.Delta
open Clem.Py Clem.Py.J

/-! ### path codec: `_split_path (_join_path segs) = segs` for non-empty `segs` -/

theorem splitPath_plain {c : Nat} (h1 : c ≠ BS) (h2 : c ≠ DOT) (r : Str) :
    splitPath (c :: r) = consHead c (splitPath r) := by
  cases r with
  | nil => simp [splitPath, h2, consHead]
  | cons d ds => simp [splitPath, h1, h2]

theorem splitPath_dot (r : Str) : splitPath (DOT :: r) = [] :: splitPath r := by
  cases r with
  | nil => simp [splitPath]
  | cons d ds => simp [splitPath, DOT, BS]

theorem splitPath_escaped {d : Nat} (h : d = BS ∨ d = DOT) (r : Str) :
    splitPath (BS :: d :: r) = consHead d (splitPath r) := by
  simp [splitPath, h]

theorem consHead_ne_nil (c : Nat) (l : List Str) : consHead c l ≠ [] := by cases l <;> nofun

theorem splitPath_ne_nil (s : Str) : splitPath s ≠ [] := by
  fun_cases splitPath s
  case case1 => nofun
  case case2 => nofun
  case case3 => nofun
  case case4 => exact consHead_ne_nil _ _
  case case5 => nofun
  case case6 => exact consHead_ne_nil _ _

def prependHead (s : Str) : List Str → List Str
  | [] => [s]
  | x :: xs => (s ++ x) :: xs

theorem consHead_prependHead (c : Nat) (s : Str) {l : List Str} (h : l ≠ []) :
    consHead c (prependHead s l) = prependHead (c :: s) l := by
  cases l with
  | nil => exact absurd rfl h
  | cons x xs => rfl

theorem splitPath_esc_append (s t : Str) :
    splitPath (esc s ++ t) = prependHead s (splitPath t) := by
  induction s with
  | nil =>
    have := splitPath_ne_nil t
    cases h : splitPath t with
    | nil => exact absurd h this
    | cons x xs => simp [esc, prependHead, h]
  | cons c cs ih =>
    by_cases hc : c = BS ∨ c = DOT
    · simp only [esc, if_pos hc, List.cons_append]
      rw [splitPath_escaped hc, ih, consHead_prependHead _ _ (splitPath_ne_nil t)]
    · simp only [esc, if_neg hc, List.cons_append]
      have h1 : c ≠ BS := fun e => hc (Or.inl e)
      have h2 : c ≠ DOT := fun e => hc (Or.inr e)
      rw [splitPath_plain h1 h2, ih, consHead_prependHead _ _ (splitPath_ne_nil t)]

/-- The path codec is lossless for every non-empty list of segments, whatever the segments contain
    (dots, backslashes, empty strings, any code point). -/
theorem splitPath_joinPath : ∀ (segs : List Str), segs ≠ [] → splitPath (joinPath segs) = segs
  | [], h => absurd rfl h
  | [s], _ => by
      have := splitPath_esc_append s []
      simpa [joinPath, splitPath, prependHead] using this
  | s :: t :: rest, _ => by
      have ih := splitPath_joinPath (t :: rest) (by simp)
      simp only [joinPath]
      rw [splitPath_esc_append, splitPath_dot, ih]
      simp [prependHead]

/-! ### `_set_path` / `_del_path` through `lookup`

A set or delete along the segments `k :: rest` changes the object only under its head key `k`;
`stepSet rest v` / `stepDel rest` say what it makes of the value found there. -/

/-- what `_set_path` along `k :: rest` leaves under `k`, given what was there -/
def stepSet (rest : List Str) (v : J) (cur : Option J) : Option J :=
  match rest with
  | [] => some v
  | _ :: _ => some (.obj (setSegs rest v (asEntries cur)))

/-- what `_del_path` along `k :: rest` leaves under `k` (`none` = the key is gone) -/
def stepDel (rest : List Str) (cur : Option J) : Option J :=
  match rest with
  | [] => none
  | _ :: _ =>
    match cur with
    | some (.obj ne) => some (.obj (delSegs rest ne))
    | x => x

theorem lookup_setSegs (k k' : Str) (rest : List Str) (v : J) (e : List (Str × J)) :
    lookup k (setSegs (k' :: rest) v e) = if k = k' then stepSet rest v (lookup k e) else lookup k e := by
  cases rest with
  | nil => simp only [setSegs, lookup_dset, stepSet]
  | cons k2 r =>
    simp only [setSegs, lookup_dset, stepSet]
    by_cases h : k = k' <;> simp [h]

theorem lookup_delSegs (k k' : Str) (rest : List Str) (e : List (Str × J)) :
    lookup k (delSegs (k' :: rest) e) = if k = k' then stepDel rest (lookup k e) else lookup k e := by
  cases rest with
  | nil => simp only [delSegs, lookup_derase, stepDel]
  | cons k2 r =>
    rw [delSegs]
    split
    · next ne hl =>
      rw [lookup_dset]
      by_cases h : k = k'
      · rw [if_pos h, if_pos h, h, hl]; rfl
      · rw [if_neg h, if_neg h]
    · next hno =>
      by_cases h : k = k'
      · rw [if_pos h, stepDel]
        exact fun ne hl => hno ne (h ▸ hl)
      · rw [if_neg h]

/-! ### items as operations on relative segment paths -/

def Item.path : Item → Str
  | .add p _ => p
  | .mod p _ => p
  | .del p => p

/-- segments of the item's path below a prefix of length `d`. -/
def Item.segs (d : Nat) (it : Item) : List Str := (splitPath it.path).drop d

def applyItem (d : Nat) (it : Item) (o : List (Str × J)) : List (Str × J) :=
  match it with
  | .add _ v => setSegs (it.segs d) v o
  | .mod _ v => setSegs (it.segs d) v o
  | .del _ => delSegs (it.segs d) o

def applyItems (d : Nat) (ops : List Item) (o : List (Str × J)) : List (Str × J) :=
  ops.foldl (fun o it => applyItem d it o) o

/-- the effect of an item, applied below a prefix of length `d`, on the value under its head key:
its segments below that key are `segs (d + 1)` -/
def stepItem (d : Nat) (it : Item) (cur : Option J) : Option J :=
  match it with
  | .add _ v => stepSet (it.segs (d + 1)) v cur
  | .mod _ v => stepSet (it.segs (d + 1)) v cur
  | .del _ => stepDel (it.segs (d + 1)) cur

theorem segs_succ (d : Nat) (it : Item) {k : Str} {rest : List Str} (h : it.segs d = k :: rest) :
    it.segs (d + 1) = rest := by
  unfold Item.segs at h ⊢
  rw [← List.drop_drop, h]; rfl

theorem lookup_applyItem (d : Nat) (it : Item) (o : List (Str × J)) (k k' : Str) (rest : List Str)
    (h : it.segs d = k' :: rest) :
    lookup k (applyItem d it o) = if k = k' then stepItem d it (lookup k o) else lookup k o := by
  have hs := segs_succ d it h
  cases it <;> simp only [applyItem, stepItem, h, hs, lookup_setSegs, lookup_delSegs]

/-- the item's path continues with the key `k` below the prefix of length `d` -/
def headIs (d : Nat) (k : Str) (it : Item) : Bool := (it.segs d).head? == some k

theorem headIs_iff {d : Nat} {k : Str} {it : Item} {k' : Str} {more : List Str}
    (h : it.segs d = k' :: more) : headIs d k it = true ↔ k' = k := by
  simp [headIs, h]

theorem lookup_applyItems (d : Nat) (k : Str) (ops : List Item)
    (hne : ∀ it ∈ ops, it.segs d ≠ []) (o : List (Str × J)) :
    lookup k (applyItems d ops o) =
      (ops.filter (headIs d k)).foldl (fun c it => stepItem d it c) (lookup k o) := by
  induction ops generalizing o with
  | nil => rfl
  | cons it ops ih =>
    have h1 := hne it (by simp)
    cases hs : it.segs d with
    | nil => exact absurd hs h1
    | cons k' rest =>
      simp only [applyItems, List.foldl_cons] at ih ⊢
      rw [ih (fun x hx => hne x (List.mem_cons_of_mem _ hx)), lookup_applyItem d it o k k' rest hs]
      by_cases hk : k = k'
      · rw [if_pos hk, List.filter_cons_of_pos ((headIs_iff hs).2 hk.symm), List.foldl_cons]
      · rw [if_neg hk, List.filter_cons_of_neg fun h => hk ((headIs_iff hs).1 h).symm]

theorem foldl_nested (d : Nat) (S : List Item)
    (h : ∀ it ∈ S, it.segs (d + 1) ≠ []) (e : List (Str × J)) :
    S.foldl (fun c it => stepItem d it c) (some (.obj e)) = some (.obj (applyItems (d + 1) S e)) := by
  induction S generalizing e with
  | nil => rfl
  | cons it S ih =>
    have h1 := h it (by simp)
    simp only [List.foldl_cons, applyItems] at ih ⊢
    have : stepItem d it (some (.obj e)) = some (.obj (applyItem (d + 1) it e)) := by
      cases hs : it.segs (d + 1) with
      | nil => exact absurd hs h1
      | cons k r =>
        cases it <;> simp [stepItem, applyItem, hs, stepSet, stepDel, asEntries]
    rw [this]
    exact ih (fun x hx => h x (List.mem_cons_of_mem _ hx)) _

/-! ### what `_walk_diff` emits -/

theorem walkV_obj (path : List Str) (be ce : List (Str × J)) :
    walkV path (.obj be) (.obj ce) = walkO path be ce := by
  simp [walkV, walkO]

theorem walkV_leaf (path : List Str) (bv cv : J) (h : ¬ (isObj bv = true ∧ isObj cv = true)) :
    walkV path bv cv = if same bv cv then [] else [Item.mod (joinPath path) cv] := by
  rw [walkV]
  rintro be ce rfl rfl
  exact h ⟨rfl, rfl⟩

theorem mem_levelItems (pre : List Str) (be ce : List (Str × J)) (it : Item) :
    it ∈ levelItems pre be ce ↔
      (∃ k, k ∈ keys be ∧ hasKey k ce = false ∧ it = .del (joinPath (pre ++ [k]))) ∨
      (∃ k v, (k, v) ∈ ce ∧ hasKey k be = false ∧ it = .add (joinPath (pre ++ [k])) v) := by
  simp only [levelItems, List.mem_append, List.mem_map, mem_isort, List.mem_filter,
    Bool.not_eq_true', Prod.exists, and_assoc, @eq_comm _ it]

theorem mem_walkC (pre : List Str) (ce : List (Str × J)) (it : Item) :
    ∀ bs : List (Str × J), it ∈ walkC pre bs ce ↔
      ∃ k bv cv, (k, bv) ∈ bs ∧ lookup k ce = some cv ∧ it ∈ walkV (pre ++ [k]) bv cv
  | [] => by simp [walkC]
  | (k', bv') :: bs => by
      have ih := mem_walkC pre ce it bs
      simp only [walkC, List.mem_append, ih, List.mem_cons]
      constructor
      · rintro (h | ⟨k, bv, cv, hm, hl, hi⟩)
        · cases hl : lookup k' ce with
          | none => simp [hl] at h
          | some cv => simp only [hl] at h; exact ⟨k', bv', cv, Or.inl rfl, hl, h⟩
        · exact ⟨k, bv, cv, Or.inr hm, hl, hi⟩
      · rintro ⟨k, bv, cv, hm | hm, hl, hi⟩
        · cases hm; left; simp only [hl]; exact hi
        · exact Or.inr ⟨k, bv, cv, hm, hl, hi⟩

end Clem.Delta
