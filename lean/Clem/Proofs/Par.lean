import Clem.Proofs.Sort
import Clem.Proofs.KeyedList
import Clem.Model.Par

/-! Helper lemmas for `run_parallel` (C09): both paths of the helper are described by the same two
selections from the submit-ordered task list, `filterMap okItem` and `filterMap errItem`. -/
namespace Clem.Par

open Clem.Py

variable {K E R A X Y : Type}

theorem strip_isort (kle : K → K → Bool) (l : List (Item K X)) :
    strip (isort (leK kle) l) = sortPairs kle (strip l) :=
  map_isort _ _ _ l fun _ _ _ _ => rfl

/-- sorting by `(order_key, idx)` a list that is in submit order is the stable sort by `order_key`. -/
theorem isort_leKI_eq_leK (kle : K → K → Bool) (l : List (Item K X))
    (hp : l.Pairwise (fun a b => a.idx < b.idx)) :
    isort (leKI kle) l = isort (leK kle) l :=
  isort_congr_of_pairwise _ _ <| hp.imp fun {a b} (h : a.idx < b.idx) => by
    simp [leKI, leK, Nat.le_of_lt h]

theorem map_idx_enumerate (i : Nat) (l : List (K × X)) :
    (enumerate i l).map Item.idx = List.range' i l.length := by
  induction l generalizing i with
  | nil => rfl
  | cons a l ih => rw [enumerate, List.map_cons, ih, List.length_cons, List.range'_succ]

theorem enumerate_pairwise (i : Nat) (l : List (K × X)) :
    (enumerate i l).Pairwise (fun a b => a.idx < b.idx) :=
  List.pairwise_map.mp (map_idx_enumerate i l ▸ List.pairwise_lt_range')

theorem idx_mem_of_covers {tasks : List (K × X)} {π : List Nat} (hc : Covers tasks.length π) :
    ∀ it ∈ enumerate 0 tasks, it.idx ∈ π := fun it hit =>
  hc it.idx <| by
    have := (List.mem_range'_1.mp (map_idx_enumerate 0 tasks ▸ List.mem_map_of_mem hit)).2
    rwa [Nat.zero_add] at this

/-- the result entry a successful task contributes, under its submit index. -/
def okItem (it : Item K (Except E R)) : Option (Item K R) :=
  match it.val with
  | .ok r => some ⟨it.idx, it.key, r⟩
  | .error _ => none

/-- the error entry a failing task contributes, under its submit index. -/
def errItem (it : Item K (Except E R)) : Option (Item K E) :=
  match it.val with
  | .ok _ => none
  | .error e => some ⟨it.idx, it.key, e⟩

theorem okItem_idx {a : Item K (Except E R)} {b : Item K R} (h : okItem a = some b) : b.idx = a.idx := by
  unfold okItem at h
  split at h
  · cases h; rfl
  · cases h

theorem errItem_idx {a : Item K (Except E R)} {b : Item K E} (h : errItem a = some b) : b.idx = a.idx := by
  unfold errItem at h
  split at h
  · cases h
  · cases h; rfl

theorem pairwise_idx_filterMap {f : Item K X → Option (Item K Y)}
    (hf : ∀ {a b}, f a = some b → b.idx = a.idx) {l : List (Item K X)}
    (hp : l.Pairwise (fun a b => a.idx < b.idx)) :
    (l.filterMap f).Pairwise (fun a b => a.idx < b.idx) :=
  hp.filterMap f fun a a' h b hb b' hb' => by rw [hf hb, hf hb']; exact h

theorem strip_ok_enumerate (i : Nat) (tasks : List (K × Except E R)) :
    strip ((enumerate i tasks).filterMap okItem) = okPairs tasks := by
  induction tasks generalizing i with
  | nil => rfl
  | cons a l ih =>
    obtain ⟨k, _ | r⟩ := a
    · exact ih (i + 1)
    · exact congrArg ((k, r) :: ·) (ih (i + 1))

theorem strip_err_enumerate (i : Nat) (tasks : List (K × Except E R)) :
    strip ((enumerate i tasks).filterMap errItem) = failPairs tasks := by
  induction tasks generalizing i with
  | nil => rfl
  | cons a l ih =>
    obtain ⟨k, e | _⟩ := a
    · exact congrArg ((k, e) :: ·) (ih (i + 1))
    · exact ih (i + 1)

/-- the completion log, read through `Future.result()`, is the task table restricted to `π`. -/
theorem futResult_complete (its : List (Item K (Except E R))) (π : List Nat) (i : Nat) :
    futResult (complete its π) i
      = if i ∈ π then (its.find? (fun t => t.idx == i)).map (·.val) else none := by
  unfold futResult complete
  induction π with
  | nil => rfl
  | cons j π ih =>
    rw [List.filterMap_cons]
    by_cases e : i = j
    · subst e
      cases hF : its.find? (fun t => t.idx == i) with
      | none => simp only [Option.map_none, ih, hF, ite_self, List.mem_cons, true_or, ↓reduceIte]
      | some t => simp only [Option.map_some, List.lookup_cons, beq_iff_eq.mpr rfl, List.mem_cons, true_or, ↓reduceIte]
    · have e' : (i == j) = false := beq_false_of_ne e
      cases its.find? (fun t => t.idx == j) with
      | none => simp only [Option.map_none, ih, List.mem_cons, e, false_or]
      | some t => simp only [Option.map_some, List.lookup_cons, e', ih, List.mem_cons, e, false_or]

/-- once every future has completed, the collection loop has read every task's own outcome. -/
theorem collect_eq {its : List (Item K (Except E R))}
    (hp : its.Pairwise (fun a b => a.idx < b.idx)) (π : List Nat)
    (hc : ∀ it ∈ its, it.idx ∈ π) :
    ∀ sub : List (Item K (Except E R)), sub ⊆ its →
      collect (complete its π) sub = ⟨sub.filterMap okItem, sub.filterMap errItem⟩ := by
  intro sub
  induction sub with
  | nil => intro _; rfl
  | cons a l ih =>
    intro hsub
    obtain ⟨ha, hl⟩ := List.cons_subset.mp hsub
    rw [collect, ih hl, futResult_complete, if_pos (hc a ha), KeyedList.find?_of_mem ((List.pairwise_map.mpr hp).imp Nat.ne_of_lt) ha, Option.map_some,
      List.filterMap_cons, List.filterMap_cons]
    unfold okItem errItem
    cases a.val <;> rfl

theorem seqLoop_eq (its : List (Item K (Except E R))) :
    seqLoop its = match its.filterMap errItem with
      | [] => .ok (its.filterMap okItem)
      | e :: _ => .error (e.key, e.val) := by
  induction its with
  | nil => rfl
  | cons a t ih =>
    rw [seqLoop, ih, List.filterMap_cons, List.filterMap_cons]
    generalize t.filterMap errItem = es
    unfold okItem errItem
    cases a.val with
    | error e => rfl
    | ok r => cases es <;> rfl

/-- with `max_workers ≤ 1` the executor is never consulted: the helper is the plain loop, whatever `π`. -/
theorem runParallel_seq (kle : K → K → Bool) (merge : List (K × R) → A) (w : Int) (hw : w ≤ 1)
    (tasks : List (K × Except E R)) (π : List Nat) :
    runParallel kle merge w tasks π = plainLoop kle merge tasks := by
  unfold runParallel plainLoop
  by_cases h0 : tasks.length = 0
  · rw [if_pos h0, List.eq_nil_of_length_eq_zero h0]; rfl
  · rw [if_neg h0, if_pos hw, seqLoop_eq, ← strip_err_enumerate 0 tasks, ← strip_ok_enumerate 0 tasks,
      ← strip_isort]
    cases (enumerate 0 tasks).filterMap errItem <;> rfl

/-- the empty-task-list case of `spec` agrees with its two general cases, so the test can be dropped. -/
theorem spec_eq (kle : K → K → Bool) (merge : List (K × R) → A) (w : Int) (tasks : List (K × Except E R)) :
    spec kle merge w tasks
      = if w ≤ 1 then plainLoop kle merge tasks
        else if (failPairs tasks).isEmpty then .ok (merge (sortPairs kle (okPairs tasks)))
        else .parErr (sortPairs kle (failPairs tasks)) := by
  unfold spec
  by_cases h0 : tasks.length = 0
  · rw [if_pos h0, List.eq_nil_of_length_eq_zero h0]
    exact (ite_self _).symm
  · rw [if_neg h0]
    by_cases hw : w ≤ 1
    · rw [if_pos hw, if_pos hw]
    · rw [if_neg hw, if_neg hw]
      cases failPairs tasks <;> rfl

end Clem.Par
