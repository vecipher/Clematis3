import Clem.Proofs.Sort
import Clem.Proofs.Fold
import Clem.Proofs.KeyedList
import Clem.Model.T2
import Clem.Model.T2Mon

/-! Lemmas for C11 (T2 retrieval): the sort key as a total preorder, index filters and tier pools, the
capped loops (tier walk, residual), the rerank layers as permutations, Boolean monitors. -/

namespace Clem.T2

open Clem.Py

/-- The only thing the theorems need from the carrier: `<`, `<=`, `==` of the model agree with a
linear order.  Arithmetic is uninterpreted (rounding is irrelevant to scope / caps / order /
permutation facts); the one thing excluded is NaN. -/
class NumOrd (α : Type) [Num α] [LinearOrder α] : Prop where
  lt_iff : ∀ a b : α, Num.lt a b = true ↔ a < b
  le_iff : ∀ a b : α, Num.le a b = true ↔ a ≤ b
  beq_iff : ∀ a b : α, Num.beq a b = true ↔ a = b

section
variable {α : Type} [Num α] [LinearOrder α] [NumOrd α]

theorem keyLe_iff (a b : α × Str) :
    keyLe a b = true ↔ a.1 < b.1 ∨ (a.1 = b.1 ∧ lexLe a.2 b.2 = true) := by
  unfold keyLe keyLt
  by_cases h : b.1 = a.1
  · rw [if_pos ((NumOrd.beq_iff _ _).2 h), Bool.not_eq_true', not_lexLt_iff]
    simp [h]
  · rw [if_neg (mt (NumOrd.beq_iff _ _).1 h), Bool.not_eq_true', ← Bool.not_eq_true, NumOrd.lt_iff,
      not_lt, le_iff_lt_or_eq]
    simp [Ne.symm h]

theorem keyLe_total (a b : α × Str) : keyLe a b = true ∨ keyLe b a = true := by
  rw [keyLe_iff, keyLe_iff]
  exact lex_total (lexLe_total a.2 b.2)

theorem keyLe_refl (a : α × Str) : keyLe a a = true := (keyLe_total a a).elim id id

theorem keyLe_trans (a b c : α × Str) :
    keyLe a b = true → keyLe b c = true → keyLe a c = true := by
  rw [keyLe_iff, keyLe_iff, keyLe_iff]
  exact lex_trans lexLe_trans

theorem isort_key_pairwise {β : Type} (key : β → α × Str) (l : List β) :
    (isort (fun a b => keyLe (key a) (key b)) l).Pairwise
      (fun a b => keyLe (key a) (key b) = true) :=
  isort_pairwise _ (fun a b => keyLe_total (key a) (key b))
    (fun a b c => keyLe_trans (key a) (key b) (key c)) l

end

theorem pySlice_prefix {β : Type} (k : Int) (l : List β) : pySlice k l <+: l := by
  unfold pySlice
  split <;> exact List.take_prefix _ _

theorem pySlice_of_nonneg {β : Type} {k : Int} (hk : 0 ≤ k) (l : List β) : pySlice k l = l.take k.toNat :=
  if_pos hk

theorem pySlice_length_le {β : Type} (k : Int) (l : List β) (hk : 0 ≤ k) :
    ((pySlice k l).length : Int) ≤ k := by
  rw [pySlice_of_nonneg hk, List.length_take]
  exact (Int.ofNat_le.2 (Nat.min_le_left _ _)).trans (Int.toNat_of_nonneg hk).le

set_option linter.unusedSectionVars false

section
variable {α : Type} [Num α]

theorem visible_some {o : Str} {e : Ep α} : visible (some o) e = true ↔ e.owner = .str o :=
  beq_iff_eq

omit [Num α] in
theorem owner_of_scope_agent {c : Cfg α} (hs : c.scope = 1) : c.owner = c.agent := by
  rw [Cfg.owner, ownerForQuery, hs]; rfl

omit [Num α] in
theorem owner_of_scope_world {c : Cfg α} (hs : c.scope = 2) :
    c.owner = some [119, 111, 114, 108, 100] := by
  rw [Cfg.owner, ownerForQuery, hs]; rfl

theorem mem_filterOwner {o : Option Str} {eps : List (Ep α)} {e : Ep α} :
    e ∈ filterOwner o eps ↔ e ∈ eps ∧ visible o e = true := by
  cases o with
  | none => exact (and_iff_left rfl).symm
  | some a => exact List.mem_filter

theorem mem_filterRecent {days nowUs : Int} {eps : List (Ep α)} {e : Ep α} :
    e ∈ filterRecent days nowUs eps ↔ e ∈ eps ∧ (decide (days ≤ 0) || recentOk days nowUs e) = true := by
  unfold filterRecent
  split <;> simp [List.mem_filter, *]

theorem mem_filterQuarters {qs : List Nat} {eps : List (Ep α)} {e : Ep α} :
    e ∈ filterQuarters qs eps ↔ e ∈ eps ∧ (qs.isEmpty || qs.contains e.quarter) = true := by
  unfold filterQuarters
  split <;> simp [List.mem_filter, *]

theorem dedupIdsAux_sublist (seen : List Str) (l : List (Ep α)) : (dedupIdsAux seen l).Sublist l := by
  induction l generalizing seen with
  | nil => simp [dedupIdsAux]
  | cons x t ih =>
    unfold dedupIdsAux
    split
    · exact (ih seen).cons _
    · exact (ih _).cons_cons _

theorem dedupIds_sublist (l : List (Ep α)) : (dedupIds l).Sublist l := dedupIdsAux_sublist [] l

theorem dedupIdsAux_ids (seen : List Str) (l : List (Ep α)) :
    ((dedupIdsAux seen l).map (·.id)).Nodup ∧ ∀ h ∈ dedupIdsAux seen l, h.id ∉ seen := by
  induction l generalizing seen with
  | nil => exact ⟨List.nodup_nil, fun _ h => (List.not_mem_nil h).elim⟩
  | cons x t ih =>
    rw [dedupIdsAux]
    split
    · exact ih seen
    · rename_i hx
      obtain ⟨h1, h2⟩ := ih (x.id :: seen)
      refine ⟨List.nodup_cons.2 ⟨fun hm => ?_, h1⟩, List.forall_mem_cons.2
        ⟨fun hc => hx (List.contains_iff_mem.2 hc), fun h hh hc => h2 h hh (List.mem_cons_of_mem _ hc)⟩⟩
      obtain ⟨y, hy, hid⟩ := List.mem_map.1 hm
      exact h2 y hy (hid ▸ List.mem_cons_self)

theorem dedupIds_ids_nodup (l : List (Ep α)) : ((dedupIds l).map (·.id)).Nodup :=
  (dedupIdsAux_ids [] l).1

theorem dedupIdsAux_cover {R : Ep α → Ep α → Prop} (seen : List Str) (l : List (Ep α))
    (hs : l.Pairwise R) :
    ∀ e ∈ l, e.id ∉ seen → ∃ h ∈ dedupIdsAux seen l, h.id = e.id ∧ (h = e ∨ R h e) := by
  induction l generalizing seen with
  | nil => intro e he; cases he
  | cons x t ih =>
    rw [List.pairwise_cons] at hs
    intro e he hne
    rw [dedupIdsAux]
    split
    · rename_i hx
      rcases List.mem_cons.1 he with rfl | he
      · exact absurd (List.contains_iff_mem.1 hx) hne
      · exact ih seen hs.2 e he hne
    · rcases List.mem_cons.1 he with rfl | he
      · exact ⟨e, List.mem_cons_self, rfl, .inl rfl⟩
      · by_cases hid : e.id = x.id
        · exact ⟨x, List.mem_cons_self, hid.symm, .inr (hs.1 e he)⟩
        · obtain ⟨h, hh, h1, h2⟩ := ih (x.id :: seen) hs.2 e he
            fun hc => (List.mem_cons.1 hc).elim hid hne
          exact ⟨h, List.mem_cons_of_mem _ hh, h1, h2⟩

theorem mem_rankByCosine {k : Int} {θ : α} {eps : List (Ep α)} {e : Ep α}
    (h : e ∈ rankByCosine k θ eps) : e ∈ eps ∧ passes θ e = true := by
  unfold rankByCosine at h
  have := (dedupIds_sublist _).subset ((pySlice_prefix _ _).subset h)
  rw [mem_isort] at this
  simpa [List.mem_filter] using this

theorem rankByCosine_ids_nodup (k : Int) (θ : α) (eps : List (Ep α)) :
    ((rankByCosine k θ eps).map (·.id)).Nodup := by
  unfold rankByCosine
  exact (dedupIds_ids_nodup _).sublist ((pySlice_prefix k _).sublist.map _)

theorem rankByCosine_length {k : Int} (θ : α) (eps : List (Ep α)) (hk : 0 ≤ k) :
    ((rankByCosine k θ eps).length : Int) ≤ k := pySlice_length_le _ _ hk

theorem mem_clusterPool {chosen : List Str} {eps : List (Ep α)} {e : Ep α} :
    e ∈ clusterPool chosen eps ↔ e ∈ eps ∧ e.cluster ∈ chosen := by
  simp only [clusterPool, List.mem_flatMap, mem_isort, List.mem_filter, beq_iff_eq]
  exact ⟨fun ⟨_, hc, he, hcl⟩ => ⟨he, hcl ▸ hc⟩, fun ⟨he, hc⟩ => ⟨_, hc, he, rfl⟩⟩

theorem chosenClusters_length (cs : List (Str × α)) (m : Int) (eps : List (Ep α)) (hm : 0 ≤ m) :
    ((chosenClusters cs m eps).length : Int) ≤ m := by
  unfold chosenClusters
  rw [List.length_map]
  exact pySlice_length_le _ _ hm

/-- The candidate pool of tier `t`, which `searchTier` ranks; empty for an unknown tier code. -/
def tierPool (c : Cfg α) (t : Nat) (eps : List (Ep α)) : List (Ep α) :=
  match t with
  | 0 => filterRecent c.days c.nowUs (filterOwner c.owner eps)
  | 1 => clusterPool (chosenClusters c.cscore c.topM (filterOwner c.owner eps)) (filterOwner c.owner eps)
  | 2 => filterQuarters c.quarters (filterOwner c.owner eps)
  | _ => []

/-- `tierOk` (the monitors' tier rule) describes the pool exactly. -/
theorem mem_tierPool {c : Cfg α} {t : Nat} {eps : List (Ep α)} {e : Ep α} :
    e ∈ tierPool c t eps ↔ e ∈ eps ∧ visible c.owner e = true ∧ tierOk c eps e t = true := by
  match t with
  | 0 => rw [tierPool, mem_filterRecent, mem_filterOwner, and_assoc]; rfl
  | 1 =>
    rw [tierPool, mem_clusterPool, mem_filterOwner, and_assoc]
    exact and_congr_right' (and_congr_right' List.contains_iff_mem.symm)
  | 2 => rw [tierPool, mem_filterQuarters, mem_filterOwner, and_assoc]; rfl
  | n + 3 => exact ⟨fun h => (List.not_mem_nil h).elim, fun h => (Bool.false_ne_true h.2.2).elim⟩

theorem rankByCosine_nil (k : Int) (θ : α) : rankByCosine k θ [] = [] := by
  unfold rankByCosine pySlice
  split <;> exact List.take_nil

theorem searchTier_eq (c : Cfg α) (t : Nat) (eps : List (Ep α)) :
    searchTier c t eps = rankByCosine c.k c.θ (tierPool c t eps) := by
  unfold searchTier
  dsimp only
  split
  · rename_i h
    have : tierPool c t eps = [] := List.eq_nil_iff_forall_not_mem.2 fun e he => by
      have hm := mem_filterOwner.2 ⟨(mem_tierPool.1 he).1, (mem_tierPool.1 he).2.1⟩
      rw [List.isEmpty_iff.1 h] at hm
      cases hm
    rw [this, rankByCosine_nil]
  · match t with
    | 0 | 1 | 2 => rfl
    | n + 3 => exact (rankByCosine_nil _ _).symm

/-- Everything `_search_with_episodes` returns: an index episode, visible to the query owner,
with a vector, cosine ≥ θ, satisfying the tier's rule. -/
theorem mem_searchTier {c : Cfg α} {t : Nat} {eps : List (Ep α)} {e : Ep α}
    (h : e ∈ searchTier c t eps) :
    e ∈ eps ∧ visible c.owner e = true
      ∧ passes c.θ e = true ∧ tierOk c eps e t = true := by
  rw [searchTier_eq] at h
  obtain ⟨h1, h2⟩ := mem_rankByCosine h
  obtain ⟨h3, h4, h5⟩ := mem_tierPool.1 h1
  exact ⟨h3, h4, h2, h5⟩

/-! `addHits`, the tier walk and the residual loops have one shape: run `step` along a list and stop as
soon as a step that changed the accumulator leaves it with `k` entries or more. -/

/-- `step x acc = none`: `x` leaves the accumulator alone and the cap is not tested. -/
def capLoop {β γ : Type} (k : Int) (step : β → List γ → Option (List γ)) : List β → List γ → List γ
  | [], acc => acc
  | x :: xs, acc =>
    match step x acc with
    | none => capLoop k step xs acc
    | some acc' => if k ≤ (acc'.length : Int) then acc' else capLoop k step xs acc'

section
variable {β γ : Type} {k : Int} {step : β → List γ → Option (List γ)} {xs : List β} {acc : List γ}

theorem capLoop_none {x : β} (e : step x acc = none) :
    capLoop k step (x :: xs) acc = capLoop k step xs acc := by
  rw [capLoop, e]

theorem capLoop_some {x : β} {a' : List γ} (e : step x acc = some a') :
    capLoop k step (x :: xs) acc = if k ≤ (a'.length : Int) then a' else capLoop k step xs a' := by
  rw [capLoop, e]

/-- `I` holds of every accumulator the loop goes on with, `P` of every one it may return. -/
theorem capLoop_rule {I P : List γ → Prop} (hend : ∀ a, I a → P a) (h0 : I acc)
    (hs : ∀ x ∈ xs, ∀ a a', I a → step x a = some a' → P a' ∧ ((a'.length : Int) < k → I a')) :
    P (capLoop k step xs acc) := by
  induction xs generalizing acc with
  | nil => exact hend _ h0
  | cons x xs ih =>
    have ih' := fun {a} (h : I a) => ih h fun y hy => hs y (List.mem_cons_of_mem _ hy)
    cases e : step x acc with
    | none => rw [capLoop_none e]; exact ih' h0
    | some a' =>
      obtain ⟨hp, hi⟩ := hs x List.mem_cons_self acc a' h0 e
      rw [capLoop_some e]
      by_cases hk : k ≤ (a'.length : Int)
      · rw [if_pos hk]; exact hp
      · rw [if_neg hk]; exact ih' (hi (Int.not_le.1 hk))

theorem capLoop_inv {P : List γ → Prop} (h0 : P acc)
    (hs : ∀ x ∈ xs, ∀ a a', P a → step x a = some a' → P a') : P (capLoop k step xs acc) :=
  capLoop_rule (fun _ h => h) h0 fun x hx a a' h e => ⟨hs x hx a a' h e, fun _ => hs x hx a a' h e⟩

theorem capLoop_length {b : Int} (hb : k ≤ b) (h0 : (acc.length : Int) < b)
    (hs : ∀ x ∈ xs, ∀ a a', (a.length : Int) < b → step x a = some a' → (a'.length : Int) ≤ b) :
    ((capLoop k step xs acc).length : Int) ≤ b :=
  capLoop_rule (I := fun a => (a.length : Int) < b) (fun _ h => Int.le_of_lt h) h0
    fun x hx a a' h e => ⟨hs x hx a a' h e, fun h' => Int.lt_of_lt_of_le h' hb⟩

theorem capLoop_sublist (mono : ∀ x a a', step x a = some a' → a.Sublist a') :
    acc.Sublist (capLoop k step xs acc) :=
  capLoop_inv (P := fun a => acc.Sublist a) (List.Sublist.refl _) fun x _ _ _ h e => h.trans (mono x _ _ e)

/-- A loop that ends below the cap has taken every step, from and to states that lie within the result. -/
theorem capLoop_complete (mono : ∀ x a a', step x a = some a' → a.Sublist a')
    (hl : ((capLoop k step xs acc).length : Int) < k) :
    ∀ x ∈ xs, ∃ a, a.Sublist (capLoop k step xs acc)
      ∧ ∀ a', step x a = some a' → a'.Sublist (capLoop k step xs acc) := by
  induction xs generalizing acc with
  | nil => intro x hx; cases hx
  | cons y ys ih =>
    -- below the cap the loop goes on from the state `acc'` the first step leaves
    obtain ⟨acc', hsub, hstep, heq⟩ : ∃ acc', acc.Sublist acc' ∧ (∀ a', step y acc = some a' → a' = acc')
        ∧ capLoop k step (y :: ys) acc = capLoop k step ys acc' := by
      cases e : step y acc with
      | none => exact ⟨acc, List.Sublist.refl _, nofun, capLoop_none e⟩
      | some a' =>
        refine ⟨a', mono _ _ _ e, fun _ h => (Option.some.inj h).symm, (capLoop_some e).trans (if_neg fun hk => ?_)⟩
        rw [capLoop_some e, if_pos hk] at hl
        exact Int.not_le.2 hl hk
    rw [heq] at hl ⊢
    intro x hx
    rcases List.mem_cons.1 hx with rfl | hx
    · exact ⟨acc, hsub.trans (capLoop_sublist mono), fun a' e => hstep a' e ▸ capLoop_sublist mono⟩
    · exact ih hl x hx

end

/-- One hit of `addHits`: appended unless its id is there already. -/
def hitStep (h : Ep α) (a : List (Ep α)) : Option (List (Ep α)) :=
  if a.any (fun r => r.id == h.id) then none else some (a ++ [h])

theorem hitStep_eq_some {h : Ep α} {a a' : List (Ep α)} :
    hitStep h a = some a' ↔ h.id ∉ a.map (·.id) ∧ a ++ [h] = a' := by
  rw [hitStep, Option.ite_none_left_eq_some, Option.some.injEq]
  simp only [List.any_eq_true, List.mem_map, beq_iff_eq]

theorem addHits_eq (k : Int) (hits acc : List (Ep α)) : addHits k hits acc = capLoop k hitStep hits acc := by
  induction hits generalizing acc with
  | nil => rfl
  | cons h hs ih =>
    rw [addHits]
    by_cases hc : acc.any (fun r => r.id == h.id) = true
    · rw [if_pos hc, capLoop_none (if_pos hc), ih]
    · rw [if_neg hc, capLoop_some (if_neg hc), ih]

theorem addHits_mem {k : Int} {hits acc : List (Ep α)} {e : Ep α}
    (h : e ∈ addHits k hits acc) : e ∈ acc ∨ e ∈ hits := by
  rw [addHits_eq] at h
  refine capLoop_inv (P := fun a => ∀ e ∈ a, e ∈ acc ∨ e ∈ hits) (fun _ => Or.inl) ?_ e h
  intro x hx a a' ha e y hy
  obtain ⟨_, rfl⟩ := hitStep_eq_some.1 e
  rcases List.mem_append.1 hy with hy | hy
  · exact ha y hy
  · exact .inr (List.mem_singleton.1 hy ▸ hx)

theorem addHits_nodup {k : Int} {hits acc : List (Ep α)}
    (hn : (acc.map (·.id)).Nodup) : ((addHits k hits acc).map (·.id)).Nodup := by
  rw [addHits_eq]
  refine capLoop_inv (P := fun a : List (Ep α) => (a.map (·.id)).Nodup) hn fun x _ a a' ha e => ?_
  obtain ⟨hx, rfl⟩ := hitStep_eq_some.1 e
  exact KeyedList.nodup_keys_snoc ha hx

theorem addHits_length {k : Int} {hits acc : List (Ep α)}
    (hl : (acc.length : Int) < k) : ((addHits k hits acc).length : Int) ≤ k := by
  rw [addHits_eq]
  refine capLoop_length (Int.le_refl k) hl fun x _ a a' ha e => ?_
  obtain ⟨_, rfl⟩ := hitStep_eq_some.1 e
  rw [List.length_append, List.length_singleton]
  exact Int.add_one_le_of_lt ha

theorem hitStep_mono (h : Ep α) (a a' : List (Ep α)) (e : hitStep h a = some a') : a.Sublist a' :=
  (hitStep_eq_some.1 e).2 ▸ List.sublist_append_left _ _

theorem addHits_sublist (k : Int) (hits acc : List (Ep α)) : acc.Sublist (addHits k hits acc) :=
  addHits_eq k hits acc ▸ capLoop_sublist hitStep_mono

/-- One tier of the walk: tiers with an unknown code are skipped. -/
def tierStep (k : Int) (search : Nat → List (Ep α)) (t : Nat) (a : List (Ep α)) : Option (List (Ep α)) :=
  if t ≤ 2 then some (addHits k (search t) a) else none

theorem tierStep_eq_some {k : Int} {search : Nat → List (Ep α)} {t : Nat} {a a' : List (Ep α)} :
    tierStep k search t a = some a' ↔ t ≤ 2 ∧ addHits k (search t) a = a' := by
  simp [tierStep]

theorem walk_eq (k : Int) (search : Nat → List (Ep α)) (ts : List Nat) (acc : List (Ep α)) (seq : List Nat) :
    (walk k search ts acc seq).1 = capLoop k (tierStep k search) ts acc := by
  induction ts generalizing acc seq with
  | nil => rfl
  | cons t ts ih =>
    rw [walk]
    by_cases ht : t ≤ 2
    · rw [if_pos ht, capLoop_some (if_pos ht)]
      dsimp only
      rw [apply_ite Prod.fst, ih]
    · rw [if_neg ht, capLoop_none (if_neg ht), ih]

theorem walk_mem {k : Int} {search : Nat → List (Ep α)} {ts : List Nat} {acc : List (Ep α)}
    {seq : List Nat} {e : Ep α} (h : e ∈ (walk k search ts acc seq).1) :
    e ∈ acc ∨ ∃ t ∈ ts, t ≤ 2 ∧ e ∈ search t := by
  rw [walk_eq] at h
  refine capLoop_inv (P := fun a => ∀ e ∈ a, e ∈ acc ∨ ∃ t ∈ ts, t ≤ 2 ∧ e ∈ search t)
    (fun _ => Or.inl) ?_ e h
  intro t ht a a' ha e y hy
  obtain ⟨h2, rfl⟩ := tierStep_eq_some.1 e
  exact (addHits_mem hy).elim (ha y) fun hy => .inr ⟨t, ht, h2, hy⟩

theorem walk_nodup {k : Int} {search : Nat → List (Ep α)} {ts : List Nat} {acc : List (Ep α)}
    {seq : List Nat} (hn : (acc.map (·.id)).Nodup) :
    ((walk k search ts acc seq).1.map (·.id)).Nodup := by
  rw [walk_eq]
  refine capLoop_inv (P := fun a : List (Ep α) => (a.map (·.id)).Nodup) hn fun t _ a a' ha e => ?_
  exact (tierStep_eq_some.1 e).2 ▸ addHits_nodup ha

theorem walk_length {k : Int} {search : Nat → List (Ep α)} {ts : List Nat} {acc : List (Ep α)}
    {seq : List Nat} (hl : (acc.length : Int) < k) :
    ((walk k search ts acc seq).1.length : Int) ≤ k := by
  rw [walk_eq]
  refine capLoop_length (Int.le_refl k) hl fun t _ a a' ha e => ?_
  exact (tierStep_eq_some.1 e).2 ▸ addHits_length ha

theorem tierStep_mono (k : Int) (search : Nat → List (Ep α)) (t : Nat) (a a' : List (Ep α))
    (e : tierStep k search t a = some a') : a.Sublist a' :=
  (tierStep_eq_some.1 e).2 ▸ addHits_sublist k _ a

theorem rescore_map_fst (c : Cfg α) (eps l : List (Ep α)) :
    ((rescore c eps l).map (·.1)).Perm l := by
  unfold rescore
  have h := (isort_perm combLe (l.map (fun h => (h, combined c eps h.id h.cos)))).map (·.1)
  simpa [List.map_map, Function.comp_def] using h

theorem rescore_snd {c : Cfg α} {eps l : List (Ep α)} {p : Ep α × α} (h : p ∈ rescore c eps l) :
    p.1 ∈ l ∧ p.2 = combined c eps p.1.id p.1.cos := by
  unfold rescore at h
  rw [mem_isort] at h
  obtain ⟨x, hx, rfl⟩ := List.mem_map.1 h
  exact ⟨hx, rfl⟩

theorem retrieveCore_perm (c : Cfg α) (tiers : List Nat) (eps : List (Ep α)) :
    ((retrieveCore c tiers eps).1.map (·.1)).Perm (walk c.k (fun t => searchTier c t eps) tiers [] []).1 :=
  rescore_map_fst c eps _

theorem epById_of_mem {l : List (Ep α)} (hn : (l.map (·.id)).Nodup) {e : Ep α} (he : e ∈ l) :
    epById l e.id = some e :=
  KeyedList.find?_of_mem (key := fun x : Ep α => x.id) (List.map_reverse ▸ List.nodup_reverse.2 hn)
    (List.mem_reverse.2 he)

/-- What the quality layers do with a reordered item list: look the references up again by id, and keep
the old list should nothing come back. -/
theorem rebuild_perm {retrieved : List (Ep α)} {items : List (FItem α)}
    (hn : (retrieved.map (·.id)).Nodup)
    (hp : (items.map (·.ref.id)).Perm (retrieved.map (·.id))) :
    (orKeep (rebuild retrieved items) retrieved).Perm retrieved := by
  have h := hp.filterMap (epById retrieved)
  have hr : retrieved.filterMap (epById retrieved ∘ (·.id)) = retrieved :=
    (List.filterMap_congr fun e he => epById_of_mem hn he).trans List.filterMap_some
  rw [List.filterMap_map, List.filterMap_map, hr] at h
  unfold orKeep
  split
  · exact List.Perm.refl _
  · exact h

theorem itemsForFusion_ids (l : List (Ep α)) :
    (itemsForFusion l).map (·.ref.id) = l.map (·.id) := by
  rw [itemsForFusion, List.map_map]
  show List.map ((·.id) ∘ Prod.fst) l.zipIdx = _
  rw [← List.map_map, List.zipIdx_map_fst]

theorem fuse_ids (q : QCfg α) (items : List (FItem α)) :
    ((fuse q items).map (·.ref.id)).Perm (items.map (·.ref.id)) := by
  unfold fuse
  split
  · exact List.Perm.refl _
  · simp only
    refine ((isort_perm fusedLe _).map _).trans ?_
    rw [List.map_map]
    exact List.Perm.refl _

theorem pickBest_mem (lam : α) (sel : List (MItem α)) (first : MItem α) (rem : List (MItem α)) :
    pickBest lam sel first rem = first ∨ pickBest lam sel first rem ∈ rem := by
  unfold pickBest
  -- the fold's candidate is `first` or an element met so far
  refine Fold.foldl_invariant (P := fun acc : MItem α × Option α => acc.1 = first ∨ acc.1 ∈ rem) _ _
    (fun acc x hx hacc => ?_) (.inl rfl)
  dsimp only
  split
  · exact .inr hx
  · split
    · exact .inr hx
    · exact hacc

/-- On the ids, `list.remove` is `List.erase`. -/
theorem removeFirst_ids (i : Str) (rem : List (MItem α)) :
    (removeFirst i rem).map (·.item.ref.id) = (rem.map (·.item.ref.id)).erase i := by
  induction rem with
  | nil => rfl
  | cons x xs ih =>
    rw [removeFirst, List.map_cons]
    by_cases hx : (x.item.ref.id == i) = true
    · rw [if_pos hx, beq_iff_eq.1 hx, List.erase_cons_head]
    · rw [if_neg hx, List.erase_cons_tail hx, List.map_cons, ih]

theorem mmrLoop_ids (lam : α) (n : Nat) (sel rem : List (MItem α)) :
    (((mmrLoop lam n sel rem).1 ++ (mmrLoop lam n sel rem).2).map (·.item.ref.id)).Perm
      ((sel ++ rem).map (·.item.ref.id)) := by
  induction n generalizing sel rem with
  | zero => exact List.Perm.refl _
  | succ n ih =>
    unfold mmrLoop
    cases rem with
    | nil => exact List.Perm.refl _
    | cons r rs =>
      simp only
      refine (ih _ _).trans ?_
      have hb : pickBest lam sel r (r :: rs) ∈ r :: rs :=
        (pickBest_mem lam sel r (r :: rs)).elim (fun h => h.symm ▸ List.mem_cons_self) id
      rw [List.map_append, List.map_append, List.map_append, removeFirst_ids, List.append_assoc]
      have hid := List.mem_map_of_mem (f := fun m : MItem α => m.item.ref.id) hb
      exact (List.perm_cons_erase hid).symm.append_left _

theorem mmrApply_ids (q : QCfg α) (items : List (FItem α)) :
    ((mmrApply q items).map (·.ref.id)).Perm (items.map (·.ref.id)) := by
  unfold mmrApply
  simp only
  generalize clampLam q = lam
  generalize mmrFuel q (toMItems items).length = n
  have h := mmrLoop_ids lam n [] (isort mLe (toMItems items))
  rw [List.map_map]
  refine h.trans ?_
  rw [List.nil_append]
  refine ((isort_perm mLe _).map _).trans ?_
  unfold toMItems
  rw [List.map_map]
  exact List.Perm.refl _

theorem maybeMmr_ids (q : QCfg α) (items : List (FItem α)) :
    ((maybeMmr q items).map (·.ref.id)).Perm (items.map (·.ref.id)) := by
  unfold maybeMmr
  split
  · exact List.Perm.refl _
  · exact mmrApply_ids q items

theorem fusionBlock_perm (q : QCfg α) {retrieved : List (Ep α)}
    (hn : (retrieved.map (·.id)).Nodup) : (fusionBlock q retrieved).1.Perm retrieved := by
  have hf : ((fuse q (itemsForFusion retrieved)).map (·.ref.id)).Perm (retrieved.map (·.id)) :=
    itemsForFusion_ids retrieved ▸ fuse_ids q (itemsForFusion retrieved)
  have h1 := rebuild_perm hn hf
  have h2 := (rebuild_perm ((h1.map _).nodup_iff.2 hn)
    (((maybeMmr_ids q _).trans hf).trans (h1.map _).symm)).trans h1
  rw [fusionBlock]
  by_cases c1 : (!q.enabled) = true
  · rw [if_pos c1]
  rw [if_neg c1]
  by_cases c2 : q.failFuse = true
  · rw [if_pos c2]
  rw [if_neg c2]
  dsimp only
  by_cases c3 : (!q.mmrEnabled) = true
  · rw [if_pos c3]; exact h1
  rw [if_neg c3]
  by_cases c4 : q.failMmr1 = true
  · rw [if_pos c4]; exact h1
  rw [if_neg c4]; exact h2

theorem mmrFallback_perm (q : QCfg α) (f : Bool) {retrieved : List (Ep α)}
    (hn : (retrieved.map (·.id)).Nodup) : (mmrFallback q f retrieved).Perm retrieved := by
  unfold mmrFallback
  split
  · exact List.Perm.refl _
  · split
    · exact List.Perm.refl _
    · exact rebuild_perm hn (itemsForFusion_ids retrieved ▸ maybeMmr_ids q (itemsForFusion retrieved))

theorem hybridReorder_perm (work : List (Ep α)) (scores : List α)
    (hl : scores.length = work.length) : (hybridReorder work scores).Perm work := by
  unfold hybridReorder
  cases work with
  | nil => simp
  | cons x rest =>
    cases scores with
    | nil => simp at hl
    | cons s srest =>
      simp only
      refine List.Perm.cons _ ?_
      refine ((isort_perm hybLe _).map _).trans ?_
      have : (rest.zip srest).map (·.1) = rest := by
        exact List.map_fst_zip (Nat.succ.inj hl).ge
      rw [this]

theorem hybridReorder_head (work : List (Ep α)) (scores : List α) :
    (hybridReorder work scores).head? = work.head? := by
  unfold hybridReorder
  cases work with
  | nil => simp
  | cons x rest => cases scores <;> simp

theorem hybridScores_length (h : HCfg α) (work : List (Ep α)) (kc : Int) :
    (hybridScores h work kc).length = work.length := by
  unfold hybridScores
  exact List.length_map _

theorem reorder_take_spec (items : List (Ep α)) (sc : List α) {n : Nat} (h1 : 0 < n) (h2 : n ≤ items.length)
    (hl : sc.length = (items.take n).length) :
    (hybridReorder (items.take n) sc ++ items.drop n).Perm items
      ∧ (hybridReorder (items.take n) sc ++ items.drop n).head? = items.head?
      ∧ (hybridReorder (items.take n) sc ++ items.drop n).drop n = items.drop n := by
  have hp := hybridReorder_perm (items.take n) sc hl
  refine ⟨?_, ?_, ?_⟩
  · exact (hp.append_right _).trans (List.Perm.of_eq (List.take_append_drop n items))
  · rw [List.head?_append, hybridReorder_head]
    cases items with
    | nil => simp
    | cons a as => cases n with
      | zero => exact absurd h1 (Nat.lt_irrefl 0)
      | succ m => rfl
  · exact List.drop_left' (hp.length_eq.trans (List.length_take_of_le h2))

/-- `rerank_with_gel`: a permutation that keeps position 0 and everything beyond `k_max`. -/
theorem hybrid_spec (h : HCfg α) (items : List (Ep α)) (o : HOut (Ep α))
    (ho : hybrid h items = .ok o) :
    o.items.Perm items ∧ o.items.head? = items.head?
      ∧ o.items.drop (min (items.length : Int) h.kMax).toNat
          = items.drop (min (items.length : Int) h.kMax).toNat := by
  have same : ∀ u, (Except.ok ⟨items, u⟩ : Except Unit (HOut (Ep α))) = .ok o →
      o.items.Perm items ∧ o.items.head? = items.head?
        ∧ o.items.drop (min (items.length : Int) h.kMax).toNat
            = items.drop (min (items.length : Int) h.kMax).toNat := fun u e => by
    cases e; exact ⟨List.Perm.refl _, rfl, rfl⟩
  rw [hybrid] at ho
  by_cases h1 : h.fail = true
  · rw [if_pos h1] at ho; cases ho
  rw [if_neg h1] at ho
  by_cases h2 : (!h.enabled) = true
  · rw [if_pos h2] at ho; exact same _ ho
  rw [if_neg h2] at ho
  by_cases h3 : (!h.useGraph || h.edges.isEmpty || items.isEmpty) = true
  · rw [if_pos h3] at ho; exact same _ ho
  rw [if_neg h3] at ho
  dsimp only at ho
  by_cases h4 : min (items.length : Int) h.kMax ≤ 1
  · rw [if_pos h4] at ho; exact same _ ho
  rw [if_neg h4] at ho
  split at ho
  · exact same _ ho
  cases ho
  exact reorder_take_spec items _ (Int.lt_toNat.2 (Int.lt_trans Int.zero_lt_one (Int.not_le.1 h4)))
    (Int.toNat_le.2 (Int.min_le_left _ _)) (by rw [List.length_map, hybridScores_length])

theorem applyQuality_perm (h : HCfg α) (q : QCfg α) {retrieved : List (Ep α)}
    (hn : (retrieved.map (·.id)).Nodup) : (applyQuality h q retrieved).items.Perm retrieved := by
  -- whatever the hybrid layer hands on is a permutation `r0`; fusion and the fallback permute it again
  have rest : ∀ r0 : HOut (Ep α), r0.items.Perm retrieved →
      (if (fusionBlock q r0.items).2.1 = true then (fusionBlock q r0.items).1
        else mmrFallback q (if (fusionBlock q r0.items).2.2 = true then q.failMmr2 else q.failMmr1)
          (fusionBlock q r0.items).1).Perm retrieved := by
    intro r0 hr0
    have hn0 := (hr0.map (·.id)).nodup_iff.2 hn
    have hfb := fusionBlock_perm q hn0
    by_cases hc : (fusionBlock q r0.items).2.1 = true
    · rw [if_pos hc]; exact hfb.trans hr0
    · rw [if_neg hc]
      exact ((mmrFallback_perm q _ ((hfb.map (·.id)).nodup_iff.2 hn0)).trans hfb).trans hr0
  refine rest _ ?_
  by_cases he : h.enabled = true
  · rw [if_pos he]
    cases ho : hybrid h retrieved with
    | ok o => exact (hybrid_spec h retrieved o ho).1
    | error _ => exact List.Perm.refl _
  · rw [if_neg he]

/-- `d[k] = v`: the entries under other keys stay, and `(k, v)` is the entry under `k`. -/
theorem mem_dictSet {d : List (Str × Str)} {k v : Str} {p : Str × Str} :
    p ∈ dictSet d k v ↔ (p ∈ d ∧ p.1 ≠ k) ∨ p = (k, v) := by
  unfold dictSet
  split
  · rename_i hk
    obtain ⟨q, hq, hqk⟩ := List.any_eq_true.1 hk
    rw [List.mem_map]
    constructor
    · rintro ⟨p0, hp0, rfl⟩
      split
      · exact .inr rfl
      · rename_i hne
        exact .inl ⟨hp0, fun h => hne (beq_iff_eq.2 h)⟩
    · rintro (⟨hp, hne⟩ | rfl)
      · exact ⟨p, hp, if_neg fun h => hne (beq_iff_eq.1 h)⟩
      · exact ⟨q, hq, if_pos hqk⟩
  · rename_i hk
    rw [List.mem_append, List.mem_singleton]
    refine or_congr_left (iff_self_and.2 fun hp h => hk (List.any_eq_true.2 ⟨p, hp, beq_iff_eq.2 h⟩))

/-- `build_label_map`'s update for one node. -/
def nodeStep (d : List (Str × Str)) (n : GNode) : List (Str × Str) :=
  if n.label.isEmpty then d else dictSet d (lowerAscii n.label) n.id

/-- The label map is one fold over all nodes: graph by graph, each graph in id order. -/
theorem labelMap_eq (graphs : List (List GNode)) :
    labelMap graphs = (graphs.flatMap (isort nodeLe)).foldl nodeStep [] := by
  rw [List.foldl_flatMap]; rfl

theorem mem_nodes {graphs : List (List GNode)} {n : GNode} :
    n ∈ graphs.flatMap (isort nodeLe) ↔ ∃ g ∈ graphs, n ∈ g := by
  simp only [List.mem_flatMap, mem_isort]

theorem labelMap_sound (graphs : List (List GNode)) : ∀ p ∈ labelMap graphs, ∃ g ∈ graphs, ∃ n ∈ g,
    n.id = p.2 ∧ n.label.isEmpty = false ∧ p.1 = lowerAscii n.label := by
  rw [labelMap_eq]
  refine Fold.foldl_invariant (P := fun d : List (Str × Str) => ∀ p ∈ d, ∃ g ∈ graphs, ∃ n ∈ g,
    n.id = p.2 ∧ n.label.isEmpty = false ∧ p.1 = lowerAscii n.label) _ _ (fun d n hn hd p hp => ?_)
    (fun p hp => (List.not_mem_nil hp).elim)
  obtain ⟨g, hg, hn'⟩ := mem_nodes.1 hn
  unfold nodeStep at hp
  split at hp
  · exact hd p hp
  · rename_i hl
    rcases mem_dictSet.1 hp with h | rfl
    · exact hd p h.1
    · exact ⟨g, hg, n, hn', rfl, Bool.eq_false_iff.2 hl, rfl⟩

/-- One label-map entry of `resInner`: its node id is appended when the label is non-empty, occurs in the
text, and the id is not there yet. -/
def nudgeStep (tLow : Str) (p : Str × Str) (ch : List Str) : Option (List Str) :=
  if !p.1.isEmpty && isInfix p.1 tLow && !ch.contains p.2 then some (ch ++ [p.2]) else none

theorem nudgeStep_eq_some {tLow : Str} {p : Str × Str} {ch ch' : List Str} :
    nudgeStep tLow p ch = some ch'
      ↔ ((p.1.isEmpty = false ∧ isInfix p.1 tLow = true) ∧ p.2 ∉ ch) ∧ ch ++ [p.2] = ch' := by
  rw [nudgeStep, Option.ite_none_right_eq_some, Option.some.injEq]
  simp

theorem resInner_eq (cap : Int) (tLow : Str) (rest : List (Str × Str)) (ch : List Str) :
    resInner cap tLow rest ch = capLoop cap (nudgeStep tLow) rest ch := by
  induction rest generalizing ch with
  | nil => rfl
  | cons p ps ih =>
    rw [resInner]
    by_cases hc : (!p.1.isEmpty && isInfix p.1 tLow && !ch.contains p.2) = true
    · rw [if_pos hc, capLoop_some (if_pos hc), ih]
    · rw [if_neg hc, capLoop_none (if_neg hc), ih]

theorem resInner_mem {cap : Int} {tLow : Str} {rest : List (Str × Str)} {ch : List Str} {nid : Str}
    (h : nid ∈ resInner cap tLow rest ch) :
    nid ∈ ch ∨ ∃ p ∈ rest, p.2 = nid ∧ p.1.isEmpty = false ∧ isInfix p.1 tLow = true := by
  rw [resInner_eq] at h
  refine capLoop_inv (P := fun a => ∀ x ∈ a, x ∈ ch ∨ ∃ p ∈ rest, p.2 = x ∧ p.1.isEmpty = false
    ∧ isInfix p.1 tLow = true) (fun _ => Or.inl) ?_ nid h
  intro p hp a a' ha e x hx
  obtain ⟨⟨hc, _⟩, rfl⟩ := nudgeStep_eq_some.1 e
  rcases List.mem_append.1 hx with hx | hx
  · exact ha x hx
  · exact .inr ⟨p, hp, (List.mem_singleton.1 hx).symm, hc⟩

/-- Within any bound `b ≥ cap`: the unpatched outer loop needs `b = max cap 1`. -/
theorem resInner_length {cap b : Int} {tLow : Str} {rest : List (Str × Str)} {ch : List Str} (hb : cap ≤ b)
    (hl : (ch.length : Int) < b) : ((resInner cap tLow rest ch).length : Int) ≤ b := by
  rw [resInner_eq]
  refine capLoop_length hb hl fun p _ a a' ha e => ?_
  obtain ⟨_, rfl⟩ := nudgeStep_eq_some.1 e
  rw [List.length_append, List.length_singleton]
  exact Int.add_one_le_of_lt ha

theorem resInner_nodup {cap : Int} {tLow : Str} {rest : List (Str × Str)} {ch : List Str}
    (hn : ch.Nodup) : (resInner cap tLow rest ch).Nodup := by
  rw [resInner_eq]
  refine capLoop_inv hn fun p _ a a' ha e => ?_
  obtain ⟨⟨_, hc⟩, rfl⟩ := nudgeStep_eq_some.1 e
  exact ha.append (List.nodup_singleton _) (List.disjoint_singleton.2 hc)

theorem nudgeStep_mono (tLow : Str) (p : Str × Str) (ch ch' : List Str) (e : nudgeStep tLow p ch = some ch') :
    ch.Sublist ch' :=
  (nudgeStep_eq_some.1 e).2 ▸ List.sublist_append_left _ _

theorem resInner_sublist (cap : Int) (tLow : Str) (rest : List (Str × Str)) (ch : List Str) :
    ch.Sublist (resInner cap tLow rest ch) :=
  resInner_eq cap tLow rest ch ▸ capLoop_sublist (nudgeStep_mono tLow)

/-- One used hit of `resOuter`; the cap is tested before the hit is looked at. -/
def episodeStep (cap : Int) (lm : List (Str × Str)) (e : Ep α) (ch : List Str) : Option (List Str) :=
  if cap ≤ (ch.length : Int) then none else some (resInner cap (lowerAscii e.text) lm ch)

theorem episodeStep_eq_some {cap : Int} {lm : List (Str × Str)} {e : Ep α} {ch ch' : List Str} :
    episodeStep cap lm e ch = some ch'
      ↔ (ch.length : Int) < cap ∧ resInner cap (lowerAscii e.text) lm ch = ch' := by
  rw [episodeStep, Option.ite_none_left_eq_some, Option.some.injEq, Int.not_le]

theorem resOuter_eq (cap : Int) (lm : List (Str × Str)) (es : List (Ep α)) (ch : List Str) :
    resOuter cap lm es ch = capLoop cap (episodeStep cap lm) es ch := by
  induction es generalizing ch with
  | nil => rfl
  | cons e es ih =>
    rw [resOuter]
    by_cases h : cap ≤ (ch.length : Int)
    · rw [if_pos h, capLoop_none (if_pos h), ← ih]
      cases es with
      | nil => rfl
      | cons _ _ => rw [resOuter, if_pos h]
    · rw [if_neg h, capLoop_some (if_neg h)]
      dsimp only
      rw [ih]

theorem resOuterUnpatched_eq (cap : Int) (lm : List (Str × Str)) (es : List (Ep α)) (ch : List Str) :
    resOuterUnpatched cap lm es ch
      = capLoop cap (fun e ch => some (resInner cap (lowerAscii e.text) lm ch)) es ch := by
  induction es generalizing ch with
  | nil => rfl
  | cons e es ih => rw [resOuterUnpatched, capLoop_some rfl, ih]

theorem resOuter_mem {cap : Int} {lm : List (Str × Str)} {es : List (Ep α)} {ch : List Str}
    {nid : Str} (h : nid ∈ resOuter cap lm es ch) :
    nid ∈ ch ∨ ∃ e ∈ es, ∃ p ∈ lm, p.2 = nid ∧ p.1.isEmpty = false
      ∧ isInfix p.1 (lowerAscii e.text) = true := by
  rw [resOuter_eq] at h
  refine capLoop_inv (P := fun a => ∀ x ∈ a, x ∈ ch ∨ ∃ e ∈ es, ∃ p ∈ lm, p.2 = x ∧ p.1.isEmpty = false
    ∧ isInfix p.1 (lowerAscii e.text) = true) (fun _ => Or.inl) ?_ nid h
  intro e he a a' ha h x hx
  obtain ⟨_, rfl⟩ := episodeStep_eq_some.1 h
  exact (resInner_mem hx).elim (ha x) fun hp => .inr ⟨e, he, hp⟩

theorem resOuter_length {cap : Int} {lm : List (Str × Str)} {es : List (Ep α)} {ch : List Str}
    (hl : (ch.length : Int) ≤ max cap 0) : ((resOuter cap lm es ch).length : Int) ≤ max cap 0 := by
  rw [resOuter_eq]
  refine capLoop_inv (P := fun a : List Str => (a.length : Int) ≤ max cap 0) hl fun e _ a a' _ h => ?_
  obtain ⟨hlt, rfl⟩ := episodeStep_eq_some.1 h
  exact Int.le_trans (resInner_length (Int.le_refl cap) hlt) (Int.le_max_left _ _)

theorem resOuter_nodup {cap : Int} {lm : List (Str × Str)} {es : List (Ep α)} {ch : List Str}
    (hn : ch.Nodup) : (resOuter cap lm es ch).Nodup := by
  rw [resOuter_eq]
  exact capLoop_inv hn fun e _ a a' ha h => (episodeStep_eq_some.1 h).2 ▸ resInner_nodup ha

theorem episodeStep_mono (cap : Int) (lm : List (Str × Str)) (e : Ep α) (ch ch' : List Str)
    (h : episodeStep cap lm e ch = some ch') : ch.Sublist ch' :=
  (episodeStep_eq_some.1 h).2 ▸ resInner_sublist cap _ lm ch

/-- `dedup l`: a duplicate-free sublist of `l` that still has every member. -/
theorem dedup_spec (l : List Str) : (dedup l).Sublist l ∧ (dedup l).Nodup ∧ l ⊆ dedup l := by
  induction l with
  | nil => exact ⟨List.Sublist.refl _, List.nodup_nil, fun _ h => h⟩
  | cons y ys ih =>
    obtain ⟨h1, h2, h3⟩ := ih
    rw [dedup]
    split
    · rename_i hc
      exact ⟨h1.cons _, h2, List.cons_subset.2 ⟨h3 (List.contains_iff_mem.1 hc), h3⟩⟩
    · rename_i hc
      exact ⟨h1.cons_cons _, List.nodup_cons.2 ⟨fun h => hc (List.contains_iff_mem.2 (h1.subset h)), h2⟩,
        List.cons_subset_cons _ h3⟩

theorem mem_dedup {l : List Str} {x : Str} : x ∈ dedup l ↔ x ∈ l :=
  ⟨fun h => (dedup_spec l).1.subset h, fun h => (dedup_spec l).2.2 h⟩

theorem mem_residual {cap : Int} {graphs : List (List GNode)} {used : List (Ep α)} {nid : Str} :
    nid ∈ residual cap graphs used ↔ nid ∈ resOuter cap (labelMap graphs) used [] := by
  rw [residual, mem_isort, mem_dedup]

theorem residual_sound (cap : Int) (graphs : List (List GNode)) (used : List (Ep α)) :
    ∀ nid ∈ residual cap graphs used, ∃ g ∈ graphs, ∃ n ∈ g, n.id = nid ∧ n.label.isEmpty = false
      ∧ ∃ e ∈ used, isInfix (lowerAscii n.label) (lowerAscii e.text) = true := by
  intro nid hn
  rcases resOuter_mem (mem_residual.1 hn) with h0 | ⟨e, he, p, hp, h1, _, h3⟩
  · cases h0
  · obtain ⟨g, hg, n, hn', h4, h5, h6⟩ := labelMap_sound graphs p hp
    exact ⟨g, hg, n, hn', h4.trans h1, h5, e, he, h6 ▸ h3⟩

theorem residual_length_le (cap : Int) (graphs : List (List GNode)) (used : List (Ep α)) :
    ((residual cap graphs used).length : Int) ≤ max cap 0 := by
  rw [residual, length_isort]
  exact Int.le_trans (Int.ofNat_le.2 (dedup_spec _).1.length_le)
    (resOuter_length (Int.le_max_right cap 0))

theorem residual_sorted (cap : Int) (graphs : List (List GNode)) (used : List (Ep α)) :
    (residual cap graphs used).Pairwise (fun a b => lexLt a b = true) :=
  ((isort_pairwise lexLe lexLe_total (fun _ _ _ => lexLe_trans) _).and
    ((isort_perm lexLe _).nodup_iff.2 (dedup_spec _).2.1)).imp (lexLt_iff _ _).2

end

theorem pairwiseB_iff {β : Type} (r : β → β → Bool) (l : List β) :
    pairwiseB r l = true ↔ l.Pairwise (fun a b => r a b = true) := by
  induction l with
  | nil => simp [pairwiseB]
  | cons x xs ih => simp [pairwiseB, List.pairwise_cons, List.all_eq_true, ih]

theorem nodupB_iff (l : List Str) : nodupB l = true ↔ l.Nodup := by
  unfold nodupB
  rw [pairwiseB_iff]
  unfold List.Nodup
  constructor <;> intro h <;> exact h.imp (by intro a b; simp)

theorem usedHits_some {β : Type} (k : Int) (l : List β) :
    usedHits (some k) l = l.take (max 0 k).toNat := by
  rw [usedHits]
  by_cases hk : k < 0
  · rw [if_pos hk, max_eq_left (le_of_lt hk)]; rfl
  · rw [if_neg hk, max_eq_right (not_lt.1 hk)]

theorem usedHits_map {β γ : Type} (f : β → γ) (t2k : Option Int) (l : List β) :
    usedHits t2k (l.map f) = (usedHits t2k l).map f := by
  unfold usedHits
  cases t2k with
  | none => rfl
  | some k => simp [List.map_take]

/-! A concrete lawful carrier (non-vacuity of `NumOrd`) -/

instance : Num Int where
  zero := 0
  one := 1
  add := (· + ·)
  sub := (· - ·)
  mul := (· * ·)
  div := (· / ·)
  neg := fun x => -x
  abs := fun x => if x < 0 then -x else x
  lt := fun a b => decide (a < b)
  le := fun a b => decide (a ≤ b)
  beq := fun a b => decide (a = b)
  ofInt := id

instance : NumOrd Int where
  lt_iff := by intro a b; simp [Num.lt]
  le_iff := by intro a b; simp [Num.le]
  beq_iff := by intro a b; simp [Num.beq]

end Clem.T2
