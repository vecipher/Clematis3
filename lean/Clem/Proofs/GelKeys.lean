import Clem.Proofs.GelNum
import Clem.Proofs.Sort
import Mathlib.Data.Nat.Choose.Basic

/-! Key order, edge keys, and the `used` / `pairs` combinatorics of `observe_retrieval`. -/
namespace Clem.Gel
open Clem.Py

theorem edgeKey_canon (a b : Str) :
    lexLe (edgeKey a b).src (edgeKey a b).dst = true ∧
    (edgeKey a b).key = (edgeKey a b).src ++ arrow :: (edgeKey a b).dst ∧
    (((edgeKey a b).src = a ∧ (edgeKey a b).dst = b) ∨
     ((edgeKey a b).src = b ∧ (edgeKey a b).dst = a)) := by
  unfold edgeKey
  split
  · next h => exact ⟨h, rfl, .inl ⟨rfl, rfl⟩⟩
  · next h => exact ⟨(lexLe_total a b).resolve_left h, rfl, .inr ⟨rfl, rfl⟩⟩

theorem append_arrow_inj {s s' t t' : Str} (hs : arrow ∉ s) (hs' : arrow ∉ s')
    (h : s ++ arrow :: t = s' ++ arrow :: t') : s = s' ∧ t = t' := by
  induction s generalizing s' with
  | nil =>
    cases s' with
    | nil => exact ⟨rfl, (List.cons.inj h).2⟩
    | cons y ys => exact absurd ((List.cons.inj h).1 ▸ List.mem_cons_self) hs'
  | cons x xs ih =>
    cases s' with
    | nil => exact absurd ((List.cons.inj h).1.symm ▸ List.mem_cons_self) hs
    | cons y ys =>
      have ⟨e1, e2⟩ := ih (fun hm => hs (List.mem_cons_of_mem _ hm))
        (fun hm => hs' (List.mem_cons_of_mem _ hm)) (List.cons.inj h).2
      exact ⟨congrArg₂ _ (List.cons.inj h).1 e1, e2⟩

section AnyCarrier
variable {α : Type} [NumGel α]

theorem pySlice_sublist {β : Type} (k : Int) (l : List β) : (pySlice k l).Sublist l := by
  unfold pySlice
  split <;> exact List.take_sublist _ _

theorem usedItems_length_le (c : Cfg α) (l : List (Str × α)) :
    (usedItems c l).length ≤ (eligible c l).length ∧
    (0 ≤ c.topK → (usedItems c l).length ≤ c.topK.toNat) := by
  refine ⟨(pySlice_sublist _ _).length_le.trans (length_isort _ _).le, fun h => ?_⟩
  rw [usedItems, pySlice, if_pos h, List.length_take]
  exact Nat.min_le_left _ _

theorem pairs_length {β : Type} (l : List β) : (pairs l).length = l.length.choose 2 := by
  induction l with
  | nil => rfl
  | cons a t ih =>
    simp only [pairs, List.length_append, List.length_map, List.length_cons, ih]
    rw [Nat.choose_succ_succ, Nat.choose_one_right]

/-- The pairs of a list are its two-element sublists. -/
theorem mem_pairs_iff {β : Type} {l : List β} {p : β × β} :
    p ∈ pairs l ↔ [p.1, p.2].Sublist l := by
  induction l with
  | nil => exact ⟨fun h => (nomatch h), fun h => (nomatch h)⟩
  | cons a t ih =>
    rw [pairs, List.mem_append, ih, List.sublist_cons_iff, List.mem_map, or_comm]
    refine or_congr Iff.rfl ⟨?_, ?_⟩
    · rintro ⟨b, hb, rfl⟩
      exact ⟨[b], rfl, List.singleton_sublist.2 hb⟩
    · rintro ⟨r, hr, hs⟩
      cases hr
      exact ⟨p.2, List.singleton_sublist.1 hs, rfl⟩

theorem mem_pairs {β : Type} {l : List β} {p : β × β} : p ∈ pairs l → p.1 ∈ l ∧ p.2 ∈ l := fun h =>
  have hs := (mem_pairs_iff.1 h).subset
  ⟨hs List.mem_cons_self, hs (List.mem_cons_of_mem _ List.mem_cons_self)⟩

/-- Up to the order inside a pair, the pairs of a list do not depend on the order of the list. -/
theorem pairs_perm {β : Type} {l l' : List β} (h : l.Perm l') :
    ∀ p ∈ pairs l, p ∈ pairs l' ∨ p.swap ∈ pairs l' := by
  intro p hp
  -- the sublist `[p.1, p.2]` of `l` reappears in `l'` as a sublist `m`, in one of its two orders
  obtain ⟨m, hm, hs⟩ := (mem_pairs_iff.1 hp).subperm.trans h.subperm
  obtain ⟨x, y, rfl⟩ := List.length_eq_two.1 hm.length_eq
  rcases List.mem_pair.1 (hm.subset List.mem_cons_self) with rfl | rfl
  · cases List.perm_singleton.1 ((List.perm_cons _).1 hm)
    exact .inl (mem_pairs_iff.2 hs)
  · cases List.perm_singleton.1 ((List.perm_cons _).1 (hm.trans (.swap ..)))
    exact .inr (mem_pairs_iff.2 hs)

theorem obsPairs_length (c : Cfg α) (l : List (Str × α)) :
    (obsPairs c l).length = min c.pairCap.toNat ((usedItems c l).length.choose 2) := by
  unfold obsPairs
  rw [List.length_take, pairs_length, List.length_map]

end AnyCarrier

section
set_option linter.unusedSectionVars false
variable {α : Type} [Field α] [LinearOrder α] [IsStrictOrderedRing α]

theorem keyLe_iff (a b : Str × α) :
    keyLe a b = true ↔ (b.2 ≤ a.2 ∧ (a.2 = b.2 → lexLe a.1 b.1 = true)) := by
  unfold keyLe keyLt
  simp only [num_eq, num_neg, num_lt, neg_inj, neg_lt_neg_iff,
    Bool.not_eq_eq_eq_not, Bool.not_true]
  by_cases h : b.2 = a.2
  · simp only [h, decide_true, if_true, le_refl, true_and, forall_const]
    exact not_lexLt_iff a.1 b.1
  · have h' : ¬ a.2 = b.2 := fun e => h e.symm
    simp only [h, h', decide_false, Bool.false_eq_true, if_false, decide_eq_false_iff_not, not_lt,
      false_imp_iff, and_true]

theorem keyLe_total : ∀ a b : Str × α, keyLe a b = true ∨ keyLe b a = true := by
  intro a b
  rw [keyLe_iff, keyLe_iff]
  rcases lt_trichotomy a.2 b.2 with h | h | h
  · exact .inr ⟨h.le, fun e => absurd e.symm h.ne⟩
  · exact (lexLe_total a.1 b.1).imp (fun h' => ⟨h.ge, fun _ => h'⟩) fun h' => ⟨h.le, fun _ => h'⟩
  · exact .inl ⟨h.le, fun e => absurd e.symm h.ne⟩

theorem keyLe_trans :
    ∀ a b c : Str × α, keyLe a b = true → keyLe b c = true → keyLe a c = true := by
  intro a b c
  rw [keyLe_iff, keyLe_iff, keyLe_iff]
  rintro ⟨h1, h1'⟩ ⟨h2, h2'⟩
  refine ⟨le_trans h2 h1, fun e => ?_⟩
  have e1 : a.2 = b.2 := le_antisymm (e ▸ h2) h1
  have e2 : b.2 = c.2 := e1 ▸ e
  exact lexLe_trans (h1' e1) (h2' e2)

theorem keyLe_antisymm : ∀ a b : Str × α, keyLe a b = true → keyLe b a = true → a = b := by
  intro a b
  rw [keyLe_iff, keyLe_iff]
  rintro ⟨h1, h1'⟩ ⟨h2, h2'⟩
  have e : a.2 = b.2 := le_antisymm h2 h1
  exact Prod.ext (lexLe_antisymm (h1' e) (h2' e.symm)) e

theorem usedItems_perm (c : Cfg α) {l l' : List (Str × α)} (h : l.Perm l') :
    usedItems c l = usedItems c l' := by
  unfold usedItems eligible
  rw [isort_perm_invariant keyLe keyLe_total keyLe_trans (h.filter _)
    (fun a _ b _ => keyLe_antisymm a b)]

theorem usedItems_sub (c : Cfg α) (l : List (Str × α)) :
    ∀ x ∈ usedItems c l, x ∈ l ∧ c.threshold ≤ x.2 := by
  intro x hx
  have h1 := List.mem_filter.1 ((mem_isort keyLe).mp ((pySlice_sublist _ _).subset hx))
  exact ⟨h1.1, of_decide_eq_true h1.2⟩

end

end Clem.Gel
