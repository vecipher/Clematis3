import Clem.Proofs.GelCanon

/-! One observation satisfies its relational specifications: the hand-off clause `obsTopB` and the
parts of `obsSpecB` that hold over any carrier, then `obsSpecB` assembled over an ordered field
(where the update is known to stay in the clamp). -/
namespace Clem.Gel
open Clem.Py

section AnyCarrier
variable {α : Type}

theorem findEdge_self_of_nodup {es : List (Edge α)} {e : Edge α}
    (hnd : (es.map Edge.key).Nodup) (he : e ∈ es) : findEdge e.key es = some e :=
  KeyedList.find?_of_mem hnd he

variable [NumGel α]

theorem obs_counters (c : Cfg α) (items : List (Str × α)) :
    (c.topK < 0 ∨ ((usedItems c items).length : Int) ≤ c.topK) ∧
    (usedItems c items).length ≤ (eligible c items).length ∧
    ((obsPairs c items).length : Int) ≤ max 0 c.pairCap ∧
    (obsPairs c items).length ≤ (usedItems c items).length * ((usedItems c items).length - 1) / 2 := by
  obtain ⟨h1, h2⟩ := usedItems_length_le c items
  have h3 := obsPairs_length c items
  refine ⟨?_, h1, ?_, ?_⟩
  · by_cases h : 0 ≤ c.topK
    · exact .inr ((Int.le_toNat h).1 (h2 h))
    · exact .inl (Int.not_le.1 h)
  · rw [h3, Int.max_comm, ← Int.toNat_eq_max]
    exact Int.ofNat_le.2 (Nat.min_le_left _ _)
  · rw [h3, ← Nat.choose_two_right]; exact Nat.min_le_right _ _

theorem findEdge_observeEdges_isSome (c : Cfg α) (turn : Option Int) (ps : List (Str × Str))
    (es : List (Edge α)) (k : Str) (h : (findEdge k es).isSome = true) :
    (findEdge k (observeEdges c turn es ps)).isSome = true :=
  Fold.foldl_invariant (fun es => (findEdge k es).isSome = true) (obsStep c turn) _
    (fun es p _ h => by
      rw [obsStep, findEdge_upsert]
      · split <;> [rfl; exact h]
      · exact fun _ => rfl
      · rfl)
    h

theorem obsPairs_usedKeys (c : Cfg α) (items : List (Str × α)) :
    ∀ p ∈ obsPairs c items, (edgeKey p.1 p.2).key ∈ usedKeys c items := fun p hp =>
  List.mem_flatMap.2 ⟨p, List.mem_of_mem_take hp, List.mem_cons_self⟩

/-- The used ids are among the eligible ones, in another order. -/
theorem usedKeys_eligible (c : Cfg α) (items : List (Str × α)) :
    ∀ k ∈ usedKeys c items, k ∈ eligibleKeys c items := by
  intro k hk
  obtain ⟨p, hp, hkp⟩ := List.mem_flatMap.1 hk
  have hsub : ((usedItems c items).map Prod.fst).Sublist
      ((isort keyLe (eligible c items)).map Prod.fst) := (pySlice_sublist _ _).map _
  have hperm : ((isort keyLe (eligible c items)).map Prod.fst).Perm
      ((eligible c items).map Prod.fst) := (isort_perm keyLe _).map _
  rcases pairs_perm hperm p (mem_pairs_iff.2 ((mem_pairs_iff.1 hp).trans hsub)) with h | h
  · exact List.mem_flatMap.2 ⟨p, h, hkp⟩
  · exact List.mem_flatMap.2 ⟨p.swap, h, List.mem_pair.2 (List.mem_pair.1 hkp).symm⟩

theorem countP_observeEdges_le (q : Edge α → Bool) (c : Cfg α) (turn : Option Int)
    (ps : List (Str × Str)) (es : List (Edge α)) :
    (observeEdges c turn es ps).countP q ≤ es.countP q + ps.length := by
  induction ps generalizing es with
  | nil => exact Nat.le_refl _
  | cons p t ih =>
    refine (ih _).trans ?_
    rw [List.length_cons, ← Nat.add_assoc, Nat.add_right_comm]
    exact Nat.add_le_add_right (countP_upsert_le q _ _ _ es) _

/-- A record of the result that is absent from `pre`, or differs from the one `pre` holds under its
key, was written by the observation.  `same` is the record equality the monitor is run with
(bit-level at `Float`, where `==` on weights is not reflexive); only `same a a` is used. -/
theorem changed_observeEdges (same : Edge α → Edge α → Bool)
    (hsame : ∀ a, same a a = true) {c : Cfg α} {turn : Option Int}
    {ps : List (Str × Str)} {pre : List (Edge α)} (hnd : (pre.map Edge.key).Nodup) {e : Edge α}
    (he : e ∈ observeEdges c turn pre ps)
    (hq : (!(match findEdge e.key pre with | some e0 => same e0 e | none => false)) = true) :
    ∃ p ∈ ps, e.key = (edgeKey p.1 p.2).key ∧ ∃ e0, e = bump c turn e0 :=
  (mem_observeEdges he).resolve_left fun h => by
    rw [findEdge_self_of_nodup hnd h] at hq
    simp [hsame e] at hq

theorem obsTop_holds (same : Edge α → Edge α → Bool) (hsame : ∀ a, same a a = true)
    (c : Cfg α) (s : State α) (items : List (Str × α)) (turn : Option Int)
    (hnd : ((edgesOf s).map Edge.key).Nodup) :
    obsTopB same c items (edgesOf s) (edgesOf (observe c s items turn).1) = true := by
  unfold obsTopB
  simp only [List.all_eq_true, List.mem_filter]
  rintro e ⟨he, hq⟩
  rw [observe_edges] at he
  obtain ⟨p, hp, hk, -⟩ := changed_observeEdges same hsame hnd he hq
  split at hp
  · exact List.contains_iff_mem.2 (hk ▸ obsPairs_usedKeys c items p hp)
  · cases hp

end AnyCarrier

set_option linter.unusedSectionVars false
variable {α : Type} [Field α] [LinearOrder α] [IsStrictOrderedRing α]

theorem findEdge_some_mem {es : List (Edge α)} {k : Str} {e : Edge α}
    (h : findEdge k es = some e) : e ∈ es ∧ e.key = k :=
  KeyedList.find?_some h

theorem obsSpec_holds (same : Edge α → Edge α → Bool) (hsame : ∀ a, same a a = true)
    (c : Cfg α) (s : State α) (items : List (Str × α)) (turn : Option Int)
    (hen : c.enabled = true) (hnd : ((edgesOf s).map Edge.key).Nodup) :
    obsSpecB same c items (edgesOf s) (edgesOf (observe c s items turn).1)
      (observe c s items turn).2 = true := by
  rw [observe_enabled c s items turn hen]
  obtain ⟨c1, c2, c4, c5⟩ := obs_counters c items
  unfold obsSpecB
  simp only [Bool.and_eq_true, Bool.or_eq_true, decide_eq_true_eq, List.all_eq_true,
    List.mem_filter]
  refine ⟨⟨⟨⟨⟨⟨⟨c1, c2⟩, trivial⟩, c4⟩, c5⟩, ?_⟩, ?_⟩, ?_⟩
  · intro e he
    apply findEdge_observeEdges_isSome
    rw [findEdge_self_of_nodup hnd he]; rfl
  · rintro e ⟨he, hq⟩
    obtain ⟨p, hp, hk, e0, rfl⟩ := changed_observeEdges same hsame hnd he hq
    refine ⟨List.contains_iff_mem.2 (usedKeys_eligible c items _ (hk ▸ obsPairs_usedKeys c items p hp)), ?_⟩
    cases hle : NumGel.le c.cmin c.cmax
    · exact .inl rfl
    · exact .inr ((inB_iff c _).2 (updW_bounds c e0.w (of_decide_eq_true hle)))
  · -- no record of the old list counts as changed, and each observed pair adds at most one
    rw [← List.countP_eq_length_filter]
    refine (countP_observeEdges_le _ c turn _ (edgesOf s)).trans (Nat.le_of_eq ?_)
    rw [Nat.add_eq_right, List.countP_eq_zero]
    intro e he h
    obtain ⟨_, hp, _⟩ := changed_observeEdges same hsame (c := c) (turn := turn) (ps := []) hnd he h
    cases hp

end Clem.Gel
