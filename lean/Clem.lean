-- GENERATED by harness/gen_main.py — library root: every model, lemma and property file.
import Clem.Audit
import Clem.Py.GateExpr
import Clem.Py.JVal
import Clem.Py.Json
import Clem.Py.Num
import Clem.Py.NumGel
import Clem.Py.Sort
import Clem.Gen.AtomicCallers
import Clem.Gen.Determinism
import Clem.Gen.FailSoft
import Clem.Gen.Gates
import Clem.Gen.Locks
import Clem.Gen.Logs
import Clem.Gen.ReflTail
import Clem.Gen.T2Consts
import Clem.Gen.T3Consts
import Clem.Gen.UtterRules
import Clem.Gen.ValidRules
import Clem.Model.Apply
import Clem.Model.Atomic
import Clem.Model.Batch
import Clem.Model.C01Turn
import Clem.Model.CacheKeys
import Clem.Model.CacheMerge
import Clem.Model.Compose
import Clem.Model.ComposeLog
import Clem.Model.Delta
import Clem.Model.DeltaLegacy
import Clem.Model.DetLru
import Clem.Model.DetTables
import Clem.Model.Gates
import Clem.Model.Gel
import Clem.Model.KeySuff
import Clem.Model.LogFrame
import Clem.Model.LogJson
import Clem.Model.LogRotate
import Clem.Model.LogStager
import Clem.Model.LruBytes
import Clem.Model.Par
import Clem.Model.ParT1
import Clem.Model.ParT2
import Clem.Model.Quality
import Clem.Model.Refl
import Clem.Model.Sanitize
import Clem.Model.Sched
import Clem.Model.Snap
import Clem.Model.SnapFloat
import Clem.Model.T1
import Clem.Model.T1Num
import Clem.Model.T2
import Clem.Model.T2Mon
import Clem.Model.T3
import Clem.Model.T3Assemble
import Clem.Model.T4
import Clem.Model.TtlLru
import Clem.Model.Turn
import Clem.Model.TurnLine
import Clem.Model.Valid
import Clem.Model.ValidTop
import Clem.Proofs.Apply
import Clem.Proofs.Atomic
import Clem.Proofs.Batch
import Clem.Proofs.C01Turn
import Clem.Proofs.CacheKeys
import Clem.Proofs.CacheMerge
import Clem.Proofs.Compose
import Clem.Proofs.Delta
import Clem.Proofs.DeltaCore
import Clem.Proofs.DetLru
import Clem.Proofs.Fold
import Clem.Proofs.Gates
import Clem.Proofs.GelBounds
import Clem.Proofs.GelCanon
import Clem.Proofs.GelKeys
import Clem.Proofs.GelNum
import Clem.Proofs.GelObsSpec
import Clem.Proofs.GelPromo
import Clem.Proofs.GelTick
import Clem.Proofs.Json
import Clem.Proofs.KeySuff
import Clem.Proofs.KeyedList
import Clem.Proofs.LogFrame
import Clem.Proofs.LogJson
import Clem.Proofs.LogRotate
import Clem.Proofs.LogStager
import Clem.Proofs.LruBytes
import Clem.Proofs.NumField
import Clem.Proofs.Par
import Clem.Proofs.ParT1
import Clem.Proofs.ParT2
import Clem.Proofs.ParT2Dedup
import Clem.Proofs.ParT2Walk
import Clem.Proofs.Refl
import Clem.Proofs.ReflTail
import Clem.Proofs.Sanitize
import Clem.Proofs.Sched
import Clem.Proofs.SchedAbs
import Clem.Proofs.SchedT1
import Clem.Proofs.Snap
import Clem.Proofs.Sort
import Clem.Proofs.T1
import Clem.Proofs.T1Budget
import Clem.Proofs.T1Cases
import Clem.Proofs.T1Hist
import Clem.Proofs.T1Mon
import Clem.Proofs.T1Out
import Clem.Proofs.T2
import Clem.Proofs.T2Complete
import Clem.Proofs.T2ParBridge
import Clem.Proofs.T3
import Clem.Proofs.T3Speak
import Clem.Proofs.T4
import Clem.Proofs.T4Perm
import Clem.Proofs.TtlLru
import Clem.Proofs.Turn
import Clem.Proofs.TurnLine
import Clem.Proofs.Valid
import Clem.Props.C01.Compose
import Clem.Props.C01.ComposeAgents
import Clem.Props.C01.ComposeCache
import Clem.Props.C01.ComposeCacheRefine
import Clem.Props.C01.ComposeGel
import Clem.Props.C01.ComposeLog
import Clem.Props.C01.ComposeMemory
import Clem.Props.C01.ComposeQuality
import Clem.Props.C01.ComposeRefine
import Clem.Props.C01.ComposeRefl
import Clem.Props.C01.ComposeSched
import Clem.Props.C01.ComposeSnap
import Clem.Props.C01.ComposeTransparent
import Clem.Props.C01
import Clem.Props.C02
import Clem.Props.C03.Perm
import Clem.Props.C03
import Clem.Props.C04
import Clem.Props.C05
import Clem.Props.C06
import Clem.Props.C07.Legacy
import Clem.Props.C07
import Clem.Props.C08
import Clem.Props.C09
import Clem.Props.C10
import Clem.Props.C11
import Clem.Props.C12
import Clem.Props.C13.Assemble
import Clem.Props.C13.Plan
import Clem.Props.C13.Rag
import Clem.Props.C13.Sanitize
import Clem.Props.C13.Speak
import Clem.Props.C13.TurnLine
import Clem.Props.C13
import Clem.Props.C14
import Clem.Props.C15.DetLru
import Clem.Props.C15.LruBytes
import Clem.Props.C15.Merge
import Clem.Props.C15.Sched
import Clem.Props.C15.TtlLru
import Clem.Props.C15.Wrappers
import Clem.Props.C15
import Clem.Props.C16.Frame
import Clem.Props.C16.Normalize
import Clem.Props.C16.Rotate
import Clem.Props.C16.Stager
import Clem.Props.C16
import Clem.Props.C17
import Clem.Props.C18.Main
import Clem.Props.C18.Real
import Clem.Props.C18
import Clem.Props.C19
import Clem.Props.C20
